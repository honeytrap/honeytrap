import HT.Model.Ldap
import HT.Lemmas.Proto
/-! BER heads and packets are framers; the ldap machine is framed. -/
namespace HT.Ldap
open HT.Seg HT.Proto

/-- `headOf` in the combinators of `HT.Seg`: the long form takes its length bytes with `takeN` -/
theorem headOf_eq (t l : UInt8) : headOf t l =
    if t.toNat % 32 = 31 then pureP none
    else if l.toNat < 128 then pureP (some (t, l.toNat))
    else if l.toNat - 128 = 0 ∨ 4 < l.toNat - 128 then pureP none
    else bindP (takeN (l.toNat - 128)) fun bs => pureP (some (t, beNat bs)) := by
  funext rest
  by_cases h1 : t.toNat % 32 = 31
  · simp only [headOf, h1, if_true, pureP]
  · by_cases h2 : l.toNat < 128
    · simp only [headOf, h1, h2, if_true, if_false, pureP]
    · by_cases h3 : l.toNat - 128 = 0 ∨ 4 < l.toNat - 128
      · simp only [headOf, h1, h2, h3, if_true, if_false, pureP]
      · simp only [headOf, h1, h2, h3, if_false, bindP, takeN, pureP]
        split <;> rfl

theorem headOf_extends (t l : UInt8) : Extends (headOf t l) (headOf t l) := by
  rw [headOf_eq]
  exact .ite _ (.pure _) (.ite _ (.pure _) (.ite _ (.pure _) ((Extends.takeN _).bind fun _ => .pure _)))

theorem berHead_eq_some {b : Bytes} {x : Option (UInt8 × Nat)} {r : Bytes} (h : berHead b = some (x, r)) :
    ∃ t l rest, b = t :: l :: rest ∧ headOf t l rest = some (x, r) := by
  rcases b with _ | ⟨t, _ | ⟨l, rest⟩⟩
  · cases h
  · cases h
  · exact ⟨t, l, rest, rfl, h⟩

theorem berHead_framer : Framer berHead berHead := by
  refine .of_progress (fun b x r more h => ?_) (fun b x r h => ?_)
  · obtain ⟨t, l, rest, rfl, h⟩ := berHead_eq_some h
    exact (headOf_extends t l).ext rest x r more h
  · obtain ⟨t, l, rest, rfl, h⟩ := berHead_eq_some h
    exact Nat.lt_succ_of_le (Nat.le_succ_of_le ((headOf_extends t l).nogrow rest x r h))

theorem berPacket_framer : Framer berPacket berPacket := by
  refine berHead_framer.bind fun h => ?_
  repeat' split
  all_goals first | exact .pure _ | exact (Extends.takeN _).bind fun _ => .pure _

theorem ldap_framed : Framed ldap := fun s => by
  cases s
  · exact .fail _
  · refine berPacket_framer.bind fun r => ?_
    split <;> exact .pure _

end HT.Ldap

import HT.Model.Knock
/-! Lemmas for C20: what `Each` visits; then the detector's state through two views, its keys and
the probes of one key, each of which a knock changes by `addU`. -/
namespace HT.Knock

theorem each_go_visits {α : Type} [DecidableEq α] (f : USet α → Nat → α → USet α) (xs : List α) :
    ∀ (cur : USet α) (i : Nat),
      (USet.each.go (fun c i x => (f c i x, [x])) cur i xs).2 = xs := by
  induction xs with
  | nil => intro cur i; rfl
  | cons x xs ih => intro cur i; simp [USet.each.go, ih]

/-- `addProbe` for any element type: a knock extends the list of keys in the same way
(`keys_knock`), so the facts about appending-if-absent are proved once, here -/
def addU {α : Type} [DecidableEq α] (l : List α) (x : α) : List α := if l.contains x then l else l ++ [x]

theorem addProbe_eq (ps : List Probe) (p : Probe) : addProbe ps p = addU ps p := rfl

theorem addU_nodup {α : Type} [DecidableEq α] (l : List α) (x : α) (h : l.Nodup) : (addU l x).Nodup := by
  unfold addU; split
  · exact h
  · next hc =>
    refine List.nodup_append.mpr ⟨h, List.pairwise_singleton _ x, fun a ha b hb e => hc ?_⟩
    rw [List.contains_iff_mem, ← List.mem_singleton.mp hb, ← e]
    exact ha

theorem mem_addU {α : Type} [DecidableEq α] (l : List α) (x y : α) : y ∈ addU l x ↔ y ∈ l ∨ y = x := by
  unfold addU; split
  · next hc => exact ⟨Or.inl, fun h => h.elim id fun e => e ▸ List.contains_iff_mem.mp hc⟩
  · rw [List.mem_append, List.mem_singleton]

theorem foldl_addU {α : Type} [DecidableEq α] (xs acc : List α) (h : acc.Nodup) :
    (xs.foldl addU acc).Nodup ∧ ∀ y, y ∈ xs.foldl addU acc ↔ y ∈ acc ∨ y ∈ xs := by
  induction xs generalizing acc with
  | nil => exact ⟨h, fun y => by simp⟩
  | cons x xs ih =>
    refine ⟨(ih _ (addU_nodup acc x h)).1, fun y => ?_⟩
    rw [List.foldl_cons, (ih _ (addU_nodup acc x h)).2, mem_addU, List.mem_cons, or_assoc]

def keys (gs : List Group) : List Key := gs.map (·.key)

def probesOf : List Group → Key → List Probe
  | [], _ => []
  | g :: gs, k => if g.key = k then g.probes else probesOf gs k

theorem probesOf_cons (g : Group) (gs : List Group) (k : Key) :
    probesOf (g :: gs) k = if g.key = k then g.probes else probesOf gs k := rfl

theorem keys_knock (gs : List Group) (k : Key) (p : Probe) (t : Nat) :
    keys (knock gs k p t) = addU (keys gs) k := by
  fun_induction knock gs k p t with
  | case1 => rfl  -- no group left
  | case2 g rest hk => simp [hk, keys, addU]  -- the head has key `k`
  | case3 g rest hk ih =>  -- another key
    simp only [keys] at ih
    simp only [keys, List.map_cons, ih, addU, List.contains_cons, beq_false_of_ne (Ne.symm hk), Bool.false_or]
    split <;> rfl

theorem probesOf_knock (gs : List Group) (k k' : Key) (p : Probe) (t : Nat) :
    probesOf (knock gs k p t) k' = if k = k' then addU (probesOf gs k') p else probesOf gs k' := by
  fun_induction knock gs k p t with
  | case1 => rfl
  | case2 g rest hk =>
    subst hk
    rw [probesOf_cons, probesOf_cons]
    by_cases hg : g.key = k'
    · rw [if_pos hg, if_pos hg, if_pos hg]; rfl
    · rw [if_neg hg, if_neg hg, if_neg hg]
  | case3 g rest hk ih =>
    rw [probesOf_cons, probesOf_cons, ih]
    by_cases hg : g.key = k'
    · rw [if_pos hg, if_pos hg, if_neg fun e => hk (hg.trans e.symm)]
    · rw [if_neg hg, if_neg hg]

theorem keys_run (ks : List (Key × Probe × Nat)) : keys (run ks) = (ks.map (·.1)).foldl addU [] := by
  rw [List.foldl_map]
  exact (List.foldl_hom keys fun gs x => (keys_knock gs x.1 x.2.1 x.2.2).symm).symm

theorem probesOf_run (ks : List (Key × Probe × Nat)) (k : Key) :
    probesOf (run ks) k = ((ks.filter (·.1 = k)).map (·.2.1)).foldl addU [] := by
  rw [List.foldl_map, List.foldl_filter]
  refine (List.foldl_hom (probesOf · k) fun gs x => ?_).symm
  rw [probesOf_knock]
  by_cases h : x.1 = k <;> simp only [h, decide_true, decide_false, if_true, if_false, Bool.false_eq_true]

theorem probesOf_of_mem (gs : List Group) (g : Group) (hm : g ∈ gs) (hn : (keys gs).Nodup) :
    probesOf gs g.key = g.probes := by
  induction gs with
  | nil => cases hm
  | cons a rest ih =>
    obtain ⟨ha, hr⟩ := List.nodup_cons.mp hn
    rcases List.mem_cons.mp hm with rfl | h
    · exact if_pos rfl
    · exact (if_neg fun (e : a.key = g.key) => ha (List.mem_map.mpr ⟨g, h, e.symm⟩)).trans (ih h hr)

end HT.Knock

import HT.Model.Proto
import HT.Lemmas.Seg
/-! The services of `HT.Model.Proto` are framed machines. -/
namespace HT.Proto
open HT.Seg

theorem scanLine_framer : Framer scanLine scanLine := Framer.line.bind fun _ => .pure _

/-- `q` succeeds wherever `p` does, with the same result -/
def Ext {α : Type} (p q : P α) : Prop := ∀ b x, p b = some x → q b = some x

theorem ext_refl {α : Type} (p : P α) : Ext p p := fun _ _ h => h

theorem ext_bind {α β : Type} (p p' : P α) (f f' : α → P β) (hp : Ext p p') (hf : ∀ x, Ext (f x) (f' x)) :
    Ext (bindP p f) (bindP p' f') := fun b y h =>
  have ⟨x, r, h1, h2⟩ := bindP_eq_some.mp h
  bindP_eq_some.mpr ⟨x, r, hp b _ h1, hf x r y h2⟩

theorem ftp_framed : Framed ftp := fun s => by
  cases s
  · exact Framer.line.bind fun _ => .pure _
  · exact .fail _

theorem telnet_framed : Framed telnet := fun s => by
  cases s <;> exact Framer.line.bind fun _ => .pure _

theorem memcached_framed : Framed memcached := fun s => by
  cases s with
  | idle => exact Framer.line.bind fun _ => .pure _
  | block cmd key flags exp bytes count => exact (Framer.takeN _ (by omega)).bind fun _ => .pure _
  | closed => exact .fail _

theorem rItemsWith_extends {item : P (Option RItem)} (hi : Extends item item) :
    ∀ n, Extends (rItemsWith item n) (rItemsWith item n)
  | 0 => .pure _
  | n + 1 => by
    unfold rItemsWith
    refine hi.bind fun it => ?_
    cases it with
    | none => exact .pure _
    | some x =>
      refine (rItemsWith_extends hi n).bind fun more => ?_
      cases more with
      | none => exact .pure _
      | some m => cases m <;> exact .pure _

theorem rItemsWith_ext (item item' : P (Option RItem)) (hi : Ext item item') :
    ∀ n, Ext (rItemsWith item n) (rItemsWith item' n) := by
  intro n
  induction n with
  | zero => exact ext_refl _
  | succ n ih =>
    unfold rItemsWith
    apply ext_bind _ _ _ _ hi
    intro it
    cases it with
    | none => exact ext_refl _
    | some x => exact ext_bind _ _ _ _ ih (fun _ => ext_refl _)

theorem rAfter_extends {items : Nat → P (Option RItem)} (hi : ∀ n, Extends (items n) (items n)) (cmd : Bytes) :
    Extends (rAfter items cmd) (rAfter items cmd) := by
  unfold rAfter
  cases cmd with
  | nil => exact .pure _
  | cons t rest =>
    have hm : ∀ (k : Nat → P (Option RItem)), (∀ n, Extends (k n) (k n)) →
        Extends (match parseUint rest with | none => pureP none | some n => k n)
          (match parseUint rest with | none => pureP none | some n => k n) := fun k hk => by
      cases parseUint rest
      · exact .pure _
      · exact hk _
    exact .ite _ (hm _ hi) (.ite _ (.pure _) (.ite _ (hm _ fun _ => scanLine_framer.toExtends.bind fun _ => .pure _)
      (.ite _ (hm _ fun _ => .pure _) (.pure _))))

theorem rAfter_ext (items items' : Nat → P (Option RItem)) (hi : ∀ n, Ext (items n) (items' n)) (cmd : Bytes) :
    Ext (rAfter items cmd) (rAfter items' cmd) := by
  unfold rAfter
  cases cmd with
  | nil => exact ext_refl _
  | cons t rest =>
    dsimp only
    by_cases h : (t == 42) = true
    · rw [if_pos h, if_pos h]
      cases parseUint rest with
      | none => exact ext_refl _
      | some n => exact hi n
    · rw [if_neg h, if_neg h]
      exact ext_refl _

theorem rItem_extends : ∀ levels, Extends (rItem levels) (rItem levels)
  | 0 => .pure _
  | levels + 1 => scanLine_framer.toExtends.bind (rAfter_extends (rItemsWith_extends (rItem_extends levels)))

theorem rItem_framer (levels : Nat) : Framer (rItem (levels + 1)) (rItem (levels + 1)) :=
  scanLine_framer.bind (rAfter_extends (rItemsWith_extends (rItem_extends levels)))

theorem redis_framed : Framed redis := fun s => by
  cases s
  · exact (rItem_framer 32).bind fun _ => .pure _
  · exact .fail _

theorem dotLines_framer : ∀ f g, f ≤ g → Framer (dotLines f) (dotLines g)
  | 0, _, _ => .fail _
  | f + 1, g + 1, h => by
    unfold dotLines
    exact Framer.line.bind fun l =>
      .ite _ (.pure _) ((dotLines_framer f g (Nat.le_of_succ_le_succ h)).toExtends.bind fun _ => .pure _)

theorem smtp_framed : Framed smtp := fun s => by
  show Framer (smtpNext s) (smtpNext s)
  unfold smtpNext
  split
  · exact .fail _
  · split
    · exact Framer.line.bind fun _ => .pure _
    · refine (Framer.takeN _ (by omega)).bind fun chunk => ?_
      split <;> exact .pure _
    · exact Framer.atLen (q := fun f => bindP (dotLines f) fun ls => pureP (smtpOnMail s (joinLines ls)))
        fun f g h => (dotLines_framer f g h).bind fun _ => .pure _

/-! What `line` and `stripEOL` do on a rendered line. -/

theorem line_render (c rest : Bytes) (h : lf ∉ c) : line (c ++ lf :: rest) = some (c ++ [lf], rest) :=
  (line_eq_some _ _ _).mpr ⟨c, h, rfl, rfl⟩

theorem stripEOL_crlf (c : Bytes) : stripEOL (c ++ [cr, lf]) = c := by
  have e : c ++ [cr, lf] = (c ++ [cr]) ++ [lf] := by simp
  unfold stripEOL
  rw [e]
  simp [List.getLast?_append, List.dropLast_append_of_ne_nil, cr, lf]

/-- a line that carries no LF, terminated by CR LF, reads back as itself -/
theorem line_crlf (c rest : Bytes) (h : lf ∉ c) : line (c ++ cr :: lf :: rest) = some (c ++ [cr, lf], rest) :=
  (line_eq_some _ _ _).mpr ⟨c ++ [cr], by simpa [cr, lf] using h, by simp [lf], by simp [lf]⟩

theorem line_empty_crlf (rest : Bytes) : line (cr :: lf :: rest) = some ([cr, lf], rest) :=
  line_crlf [] rest (by simp)

/-- a state in which the machine reads one line and acts on it -/
theorem steps_line {S E : Type} {p : Proto S E} {s : S} {k : Bytes → List E × S}
    (hk : p.next s = bindP line fun l => pureP (k l)) (c rest : Bytes) (h : lf ∉ c) :
    Steps p s (c ++ lf :: rest) (k (c ++ [lf])).1 (k (c ++ [lf])).2 rest :=
  .one (by rw [hk]; simp [bindP, line_render c rest h, pureP])

end HT.Proto

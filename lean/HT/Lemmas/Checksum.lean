import HT.Model.Canary
import HT.Lemmas.Radix
namespace HT.Can
open HT.Pkt

theorem fold16_le (n : Nat) : fold16 n ≤ 65535 := by
  fun_induction fold16 n with
  | case1 n h => exact h
  | case2 n h ih => exact ih

theorem fold16_mod (n : Nat) : fold16 n % 65535 = n % 65535 := by
  fun_induction fold16 n with
  | case1 n h => rfl
  | case2 n h ih =>
    -- 65536·q + r = (q + r) + 65535·q
    rw [ih, ← Nat.add_mul_mod_self_left _ 65535 (n / 65536)]
    congr 1
    omega

theorem fold16_pos (n : Nat) (h : 0 < n) : 0 < fold16 n := by
  fun_induction fold16 n with
  | case1 n _ => exact h
  | case2 n hn ih => exact ih (Nat.add_pos_left (Nat.div_pos (Nat.lt_of_not_le hn) (by decide)) _)

/-- a receiver that sums all words, including the checksum field, folds to 0xffff -/
theorem verify (s : Nat) : fold16 (s + cksum s) = 65535 := by
  -- the sum is a positive multiple of 0xffff, so its fold is one that is at most 0xffff
  have hm : (s + cksum s) % 65535 = 0 := by
    rw [cksum, Nat.add_mod, ← fold16_mod s, ← Nat.add_mod, Nat.add_sub_cancel' (fold16_le s)]
  have h0 : 0 < s + cksum s := by
    rcases Nat.eq_zero_or_pos s with rfl | h
    · rw [cksum, fold16]; decide
    · exact Nat.add_pos_left h _
  exact Nat.le_antisymm (fold16_le _)
    (Nat.le_of_dvd (fold16_pos _ h0) (Nat.dvd_of_mod_eq_zero ((fold16_mod _).trans hm)))

theorem cksum_lt (s : Nat) : cksum s < 65536 := Nat.lt_succ_of_le (Nat.sub_le ..)

theorem words_u16be (c : Nat) (h : c < 65536) (Q : Bytes) : words (u16be c ++ Q) = c + words Q := by
  show (UInt8.ofNat (c / 256 % 256)).toNat * 256 + (UInt8.ofNat _).toNat + words Q = _
  rw [Nat.mod_eq_of_lt (Nat.div_lt_of_lt_mul h : c / 256 < 256), Radix.be16 h]

theorem words_setAt (c : Nat) (hc : c < 65536) : ∀ (i : Nat) (b : Bytes), i % 2 = 0 →
    (b.drop i).take 2 = [0, 0] → words (setAt b i (u16be c)) = words b + c
  | 0, b, _, hz => by
    rw [← List.take_append_drop 2 b, show b.take 2 = [0, 0] from hz]
    show words (u16be c ++ b.drop 2) = 0 + words (b.drop 2) + c
    rw [words_u16be c hc, Nat.zero_add, Nat.add_comm]
  | 1, _, h, _ => nomatch h
  | _ + 2, [], _, hz => nomatch hz
  | _ + 2, [_], _, hz => nomatch hz
  | i + 2, x :: y :: r, h, hz => by
    show x.toNat * 256 + y.toNat + words (setAt r i (u16be c)) = x.toNat * 256 + y.toNat + words r + c
    rw [words_setAt c hc i r ((Nat.add_mod_right ..).symm.trans h) hz, ← Nat.add_assoc]

/-- `p` is what the receiver sums besides `b`: the TCP pseudo header -/
theorem checksum_verifies {b : Bytes} {i : Nat} (p : Nat) (hi : i % 2 = 0)
    (hz : (b.drop i).take 2 = [0, 0]) :
    fold16 (p + words (setAt b i (u16be (cksum (p + words b))))) = 65535 := by
  rw [words_setAt _ (cksum_lt _) i b hi hz, ← Nat.add_assoc]; exact verify _

/-- the IPv4 header `send` emits verifies: all ten words sum (folded) to 0xffff -/
theorem ip_checksum_valid (s : TCB) (n : Nat) :
    fold16 (words (setAt (ipHdr s n) 10 (u16be (cksum (words (ipHdr s n)))))) = 65535 := by
  -- `unfold` first: `rfl` through the folded header is slow to check
  have := checksum_verifies (b := ipHdr s n) (i := 10) 0 rfl (by unfold ipHdr; rfl)
  rwa [Nat.zero_add, Nat.zero_add] at this

/-- the TCP segment `send` emits verifies against its pseudo header -/
theorem tcp_checksum_valid (s : TCB) (flags : Nat) (payload : Bytes) :
    let seg := tcpHdr s flags ++ payload
    let pseudo := words s.dstIP + words s.srcIP + 6 + seg.length
    fold16 (pseudo + words (setAt seg 16 (u16be (cksum (pseudo + words seg))))) = 65535 :=
  checksum_verifies _ rfl (by unfold tcpHdr; rfl)

end HT.Can

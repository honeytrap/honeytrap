import HT.Model.Agent
import HT.Lemmas.Radix
namespace HT.Agent

theorem dec16_enc16 (n : Nat) (h : n < 65536) (rest : Bytes) : dec16 (enc16 n ++ rest) = some (n, rest) := by
  show some (_ + 256 * _, rest) = _
  rw [Nat.add_comm, Nat.mul_comm, Radix.be16 h]

theorem decData_encData (b rest : Bytes) (h : b.length < 65536) :
    decData (encData b ++ rest) = some (b, rest) := by
  rw [decData, encData, List.append_assoc, dec16_enc16 _ h]
  simp

def AAddr.wf (a : AAddr) : Prop := a.ip.length < 65536 ∧ a.port < 65536

theorem decAddr_encAddr (a : AAddr) (rest : Bytes) (h : a.wf) : decAddr (encAddr a ++ rest) = some (a, rest) := by
  obtain ⟨udp, ip, port⟩ := a
  simp only [encAddr, decAddr, List.cons_append, List.nil_append, List.append_assoc,
    decData_encData _ _ h.1, dec16_enc16 _ h.2]
  cases udp <;> rfl

theorem updFirst_cons (q : VConn → Bool) (f : VConn → VConn) (c : VConn) (cs : List VConn) :
    updFirst q f (c :: cs) = if q c then f c :: cs else c :: updFirst q f cs := rfl

/-- `b` is the value `P` has on everything `q` selects: the view `filter P` sees the update as its own
when `b` is true and not at all when it is false. -/
theorem updFirst_filter (P q : VConn → Bool) (f : VConn → VConn) (b : Bool)
    (hq : ∀ c, q c = true → P c = b) (hf : ∀ c, P (f c) = P c)
    (s : List VConn) : (updFirst q f s).filter P = bif b then updFirst q f (s.filter P) else s.filter P := by
  induction s with
  | nil => cases b <;> rfl
  | cons c cs ih =>
    rw [updFirst_cons]
    by_cases h : q c = true
    · rw [if_pos h, List.filter_cons, List.filter_cons, hf, hq c h]
      cases b
      · rfl
      · exact (if_pos h).symm
    · rw [if_neg h, List.filter_cons, List.filter_cons, ih]
      cases b
      · rfl
      · split
        · rw [updFirst_cons, if_neg h]; rfl
        · rfl

theorem filter_snoc {α : Type} (P : α → Bool) (s : List α) (c : α) :
    (s ++ [c]).filter P = bif P c then s.filter P ++ [c] else s.filter P := by
  rw [List.filter_append, List.filter_cons, List.filter_nil]
  cases P c
  · exact List.append_nil _
  · rfl

theorem sameAddr_iff (a b : AAddr) : sameAddr a b = true ↔ a.ip = b.ip ∧ a.port = b.port := by
  simp [sameAddr]

theorem sameAddr_congr {a b : AAddr} (h : sameAddr a b = true) (c : AAddr) : sameAddr a c = sameAddr b c := by
  rw [sameAddr, sameAddr, ((sameAddr_iff a b).1 h).1, ((sameAddr_iff a b).1 h).2]

theorem pairOf_of_hits {l' r' : AAddr} {c : VConn} (h : hits l' r' c = true) (l r : AAddr) :
    pairOf l r c = (sameAddr l' l && sameAddr r' r) := by
  simp only [hits, Bool.and_eq_true] at h
  rw [pairOf, sameAddr_congr h.1.2, sameAddr_congr h.2]

end HT.Agent

import HT.Model.Path
namespace HT.Path

theorem cleanStep_plain (out : List String) (c : String) (h : ∀ x ∈ out, plain x) :
    ∀ x ∈ cleanStep true out c, plain x := by
  fun_cases cleanStep true out c with
  | case1 => exact h
  | case2 rest => exact absurd rfl (h _ List.mem_cons_self).2.2    -- ".." is never on a plain stack
  | case3 top rest => exact fun x hx => h x (List.mem_cons_of_mem _ hx)
  | case4 => exact h
  | case5 => rename_i hr; exact absurd rfl hr
  | case6 => rename_i h1 h2; exact List.forall_mem_cons.2 ⟨⟨fun e => h1 (Or.inl e), fun e => h1 (Or.inr e), h2⟩, h⟩

theorem cleanComps_of_plain (r : Bool) (comps : List String) (h : ∀ c ∈ comps, plain c) :
    cleanComps r comps = comps := by
  suffices ∀ out, comps.foldl (cleanStep r) out = comps.reverse ++ out by
    rw [cleanComps, this, List.append_nil, List.reverse_reverse]
  induction comps with
  | nil => exact fun _ => rfl
  | cons c cs ih =>
    intro out
    have hc := h c List.mem_cons_self
    rw [List.foldl_cons, ih fun x hx => h x (List.mem_cons_of_mem _ hx), List.reverse_cons, List.append_assoc]
    unfold cleanStep
    rw [if_neg (fun h => h.elim hc.1 hc.2.1), if_neg hc.2.2]; rfl

end HT.Path

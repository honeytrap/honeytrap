import HT.Model.Decoder
/-! The guard and the slice at an in-bounds cursor; `Safe`, closed under sequencing, for the operations. -/
namespace HT.Dec

def Inv (d : Dec) : Prop := 0 ≤ d.off ∧ d.off ≤ d.len

instance (d : Dec) : Decidable d.Inv := by unfold Inv; exact inferInstance

theorem new_inv (b : Bytes) : (new b).Inv := ⟨Int.le_refl 0, Int.natCast_nonneg _⟩

/-- The right side is `Inv` of the state with the cursor moved by `s`. -/
theorem hasBytes_iff (d : Dec) (s : Int) :
    d.hasBytes s = true ↔ 0 ≤ d.off + s ∧ d.off + s ≤ d.data.length := by
  unfold hasBytes len; split <;> simp [*]

theorem advance_inv {d : Dec} {s : Int} (h : d.Inv) (h0 : 0 ≤ s) (hf : d.off + s ≤ d.len) :
    Inv { d with off := d.off + s } :=
  ⟨Int.add_nonneg h.1 h0, hf⟩

theorem hasBytes_fits {d : Dec} {s : Int} (h : d.Inv) (h0 : 0 ≤ s) (hf : d.off + s ≤ d.len) : d.hasBytes s = true :=
  (hasBytes_iff d s).2 (advance_inv h h0 hf)

theorem hasBytes_short {d : Dec} {s : Int} (hf : ¬ d.off + s ≤ d.len) : ¬ d.hasBytes s = true :=
  fun hb => hf ((hasBytes_iff d s).1 hb).2

theorem slice_ok (l : Bytes) (a b : Int) (h : 0 ≤ a ∧ a ≤ b ∧ b ≤ l.length) :
    slice l a b = .ok ((l.drop a.toNat).take (b - a).toNat) :=
  if_pos h

theorem slice_fits {d : Dec} {s : Int} (h : d.Inv) (h0 : 0 ≤ s) (hf : d.off + s ≤ d.len) :
    slice d.data d.off (d.off + s) = .ok ((d.data.drop d.off.toNat).take s.toNat) := by
  rw [slice_ok _ _ _ ⟨h.1, Int.le_add_of_nonneg_right h0, hf⟩, Int.add_comm, Int.add_sub_cancel]

theorem seek_inv (d : Dec) (p : Int) (h : d.Inv) : (d.seek p).Inv ∧ (d.seek p).data = d.data := by
  unfold seek; split
  · exact ⟨(hasBytes_iff d p).1 ‹_›, rfl⟩
  · exact ⟨h, rfl⟩

def Safe {α : Type} (f : Dec → Except Fault (α × Dec)) : Prop :=
  ∀ d, d.Inv → ∃ r, f d = .ok r ∧ r.2.Inv ∧ r.2.data = d.data

section
variable {α β : Type} {f : Dec → Except Fault (α × Dec)}

theorem Safe.pure (a : Dec → α) : Safe fun d => pure (a d, d) := fun _ h => ⟨_, rfl, h, rfl⟩

/-- The models' `do let (a, d') ← f d; g a d'` is this bind up to η for pairs, so `step` and `run`
match it by unfolding. -/
theorem Safe.bind {g : α → Dec → Except Fault (β × Dec)} (hf : Safe f) (hg : ∀ a, Safe (g a)) :
    Safe fun d => f d >>= fun r => g r.1 r.2 := by
  intro d h
  obtain ⟨r, hr, hi, hd⟩ := hf d h
  obtain ⟨r', hr', hi', hd'⟩ := hg r.1 r.2 hi
  exact ⟨r', (congrArg (· >>= _) hr).trans hr', hi', hd'.trans hd⟩

theorem Safe.map (hf : Safe f) (k : α → β) : Safe fun d => f d >>= fun r => Pure.pure (k r.1, r.2) :=
  hf.bind fun a => .pure fun _ => k a
end

theorem readN_safe (n : Nat) : Safe (readN · n) := by
  intro d h
  by_cases hb : d.hasBytes n = true
  · have hi := (hasBytes_iff d n).1 hb
    exact ⟨(beNat _, { d with off := d.off + n }),
      by show readN d n = _; rw [readN, if_pos hb, slice_fits h (Int.natCast_nonneg n) hi.2]; rfl, hi, rfl⟩
  · exact ⟨_, if_neg hb, h, rfl⟩

theorem peekN_safe (n : Nat) : Safe (peekN · n) := by
  intro d h
  by_cases hb : d.hasBytes n = true
  · exact ⟨(beNat _, d),
      by show peekN d n = _; rw [peekN, if_pos hb, slice_fits h (Int.natCast_nonneg n) ((hasBytes_iff d n).1 hb).2]; rfl, h, rfl⟩
  · exact ⟨_, if_neg hb, h, rfl⟩

theorem copy_safe (n : Int) : Safe (copy · n) := by
  intro d h
  by_cases hn : n < 0
  · exact ⟨_, if_pos hn, h, rfl⟩
  by_cases hb : d.hasBytes n = true
  · have hi := (hasBytes_iff d n).1 hb
    have h0 := Int.not_lt.1 hn
    exact ⟨(some _, { d with off := d.off + n }),
      by show copy d n = _; rw [copy, if_neg hn, if_pos hb, mkSlice, if_pos h0, slice_fits h h0 hi.2]; rfl, hi, rfl⟩
  · exact ⟨_, (if_neg hn).trans (if_neg hb), h, rfl⟩

/-- Each operation is its reader(s) in sequence with the result wrapped. -/
theorem step_safe : ∀ op, Safe (step · op)
  | .byte => (readN_safe 1).map fun v => Out.num v
  | .int16 => ((readN_safe 2).map (toSigned 16)).map Out.num
  | .int32 => ((readN_safe 4).map (toSigned 32)).map Out.num
  | .uint32 => (readN_safe 4).map fun v => Out.num v
  | .peekByte => (peekN_safe 1).map fun v => Out.num v
  | .peekInt16 => ((peekN_safe 2).map (toSigned 16)).map Out.num
  | .copy n => (copy_safe n).map Out.bytes
  | .seek n => fun d h => ⟨_, rfl, seek_inv d n h⟩
  | .data => (((readN_safe 2).map (toSigned 16)).bind copy_safe).map Out.str
  | .avail => .pure _

theorem run_safe : ∀ ops, Safe (run · ops)
  | [] => .pure _
  | o :: os => (step_safe o).bind fun r => (run_safe os).map (r :: ·)

/-- two's-complement wrap of a 64-bit Go `int` (2^63 = 9223372036854775808) -/
def wrap64 (x : Int) : Int := (x + 9223372036854775808) % 18446744073709551616 - 9223372036854775808

end HT.Dec

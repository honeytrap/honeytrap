import HT.Model.Seg
/-!
Lemmas for the framing machine.

Parsers: `Extends p q` and its strict form `Framer p q` are closed under the combinators the services are written
with, so each parser needs one walk over its definition; `Mono p` and `Progress p` are parts of `Framer p p`.

The machine: `Steps p s b evs s' r` says that from state `s` the machine consumes complete units of `b`, emits `evs`,
and is in state `s'` with `r` left.  It has no fuel; `steps_drain` and `drain_eq_of_steps` tie it to `drain`, and
everything about segmentations and about the events of a rendered stream is proved on `Steps`.
-/
namespace HT.Seg

/-- Wherever `p` succeeds, `q` succeeds with the same value, also when more bytes follow; and `p` hands back no more
than it was given.  `q = p`: the parser is monotone.  `p`, `q` the same parser with less and more fuel: the fuel does
not matter once it suffices. -/
structure Extends {α : Type} (p q : P α) : Prop where
  ext : ∀ b x r more, p b = some (x, r) → q (b ++ more) = some (x, r ++ more)
  nogrow : NoGrow p

/-- an extending parser that consumes at least one byte -/
structure Framer {α : Type} (p q : P α) : Prop extends Extends p q where
  progress : Progress p

/-- what the segmentation theorems ask of a machine: every `next s` is monotone and progresses -/
abbrev Framed {S E : Type} (p : Proto S E) : Prop := ∀ s, Framer (p.next s) (p.next s)

variable {α β : Type}

theorem bindP_eq_some {p : P α} {f : α → P β} {b : Bytes} {y : β × Bytes} :
    bindP p f b = some y ↔ ∃ x r, p b = some (x, r) ∧ f x r = some y := by
  unfold bindP
  cases p b with
  | none => simp
  | some xr => exact ⟨fun h => ⟨xr.1, xr.2, rfl, h⟩, fun ⟨_, _, e, h⟩ => by cases e; exact h⟩

theorem Extends.pure (x : α) : Extends (pureP x) (pureP x) where
  ext b y r more h := by
    simp only [pureP, Option.some.injEq, Prod.mk.injEq] at h ⊢
    exact ⟨h.1, by rw [h.2]⟩
  nogrow b y r h := by
    simp only [pureP, Option.some.injEq, Prod.mk.injEq] at h
    rw [h.2]; exact Nat.le_refl _

theorem Extends.ite {p p' q q' : P α} (c : Prop) [Decidable c] (hp : Extends p p') (hq : Extends q q') :
    Extends (if c then p else q) (if c then p' else q') := by
  split <;> assumption

theorem Framer.of_progress {p q : P α} (ext : ∀ b x r more, p b = some (x, r) → q (b ++ more) = some (x, r ++ more))
    (progress : Progress p) : Framer p q :=
  ⟨⟨ext, fun b x r h => Nat.le_of_lt (progress b x r h)⟩, progress⟩

theorem Framer.fail (q : P α) : Framer (fun _ => none) q :=
  .of_progress (fun _ _ _ _ h => nomatch h) (fun _ _ _ h => nomatch h)

theorem Extends.bind {p p' : P α} {f f' : α → P β} (hp : Extends p p') (hf : ∀ x, Extends (f x) (f' x)) :
    Extends (bindP p f) (bindP p' f') where
  ext b y r more h := by
    obtain ⟨x, r1, h1, h2⟩ := bindP_eq_some.mp h
    exact bindP_eq_some.mpr ⟨x, r1 ++ more, hp.ext b x r1 more h1, (hf x).ext r1 y r more h2⟩
  nogrow b y r h := by
    obtain ⟨x, r1, h1, h2⟩ := bindP_eq_some.mp h
    exact Nat.le_trans ((hf x).nogrow r1 y r h2) (hp.nogrow b x r1 h1)

theorem Framer.bind {p p' : P α} {f f' : α → P β} (hp : Framer p p') (hf : ∀ x, Extends (f x) (f' x)) :
    Framer (bindP p f) (bindP p' f') where
  toExtends := hp.toExtends.bind hf
  progress b y r h := by
    obtain ⟨x, r1, h1, h2⟩ := bindP_eq_some.mp h
    exact Nat.lt_of_le_of_lt ((hf x).nogrow r1 y r h2) (hp.progress b x r1 h1)

/-- a parser that takes its fuel from the length of its input: the fuel grows with the input -/
theorem Framer.atLen {q : Nat → P α} (h : ∀ f g, f ≤ g → Framer (q f) (q g)) :
    Framer (fun b => q (b.length + 1) b) (fun b => q (b.length + 1) b) where
  ext b x r more hb := (h _ _ (by simp only [List.length_append]; omega)).ext b x r more hb
  nogrow b x r hb := (h _ _ (Nat.le_refl _)).nogrow b x r hb
  progress b x r hb := (h _ _ (Nat.le_refl _)).progress b x r hb

theorem lineAux_eq_some (b : Bytes) : ∀ (acc x r : Bytes),
    lineAux acc b = some (x, r) ↔ ∃ c, 10 ∉ c ∧ b = c ++ 10 :: r ∧ x = acc.reverse ++ c ++ [10] := by
  induction b with
  | nil => intro acc x r; simp [lineAux]
  | cons a as ih =>
    intro acc x r
    by_cases ha : a = 10
    · subst ha
      simp only [lineAux, beq_self_eq_true, if_true, Option.some.injEq, Prod.mk.injEq, List.reverse_cons]
      constructor
      · rintro ⟨rfl, rfl⟩; exact ⟨[], by simp⟩
      · rintro ⟨c, hc, hb, rfl⟩
        cases c with
        | nil => simp at hb ⊢; exact hb
        | cons d ds => simp at hb hc; exact absurd hb.1 hc.1
    · have : (a == 10) = false := by simpa using ha
      simp only [lineAux, this, Bool.false_eq_true, if_false, ih, List.reverse_cons]
      constructor
      · rintro ⟨c, hc, rfl, rfl⟩
        exact ⟨a :: c, by simp [hc, Ne.symm ha], by simp⟩
      · rintro ⟨c, hc, hb, rfl⟩
        cases c with
        | nil => simp at hb; exact absurd hb.1 ha
        | cons d ds =>
          simp at hb hc
          exact ⟨ds, hc.2, hb.2, by simp [hb.1]⟩

theorem line_eq_some (b x r : Bytes) : line b = some (x, r) ↔ ∃ c, 10 ∉ c ∧ b = c ++ 10 :: r ∧ x = c ++ [10] := by
  simpa [line] using lineAux_eq_some b [] x r

theorem Framer.line : Framer line line := by
  refine .of_progress (fun b x r more h => ?_) (fun b x r h => ?_)
  · obtain ⟨c, hc, rfl, rfl⟩ := (line_eq_some b x r).mp h
    exact (line_eq_some _ _ _).mpr ⟨c, hc, by simp, rfl⟩
  · obtain ⟨c, _, rfl, _⟩ := (line_eq_some b x r).mp h
    simp only [List.length_append, List.length_cons]; omega

theorem cstrAux_append (more : Bytes) : ∀ (b acc x r : Bytes), cstrAux acc b = some (x, r) →
    cstrAux acc (b ++ more) = some (x, r ++ more) := by
  intro b
  induction b with
  | nil => intro acc x r h; simp [cstrAux] at h
  | cons c cs ih =>
    intro acc x r h
    simp only [List.cons_append, cstrAux] at h ⊢
    split at h
    · rename_i hc
      simp only [hc, if_true]
      simp only [Option.some.injEq, Prod.mk.injEq] at h
      simp [h.1, h.2]
    · rename_i hc
      simp only [hc, Bool.false_eq_true, if_false]
      exact ih _ _ _ h

theorem takeN_eq_some (n : Nat) (b x r : Bytes) : takeN n b = some (x, r) ↔ x.length = n ∧ b = x ++ r := by
  unfold takeN
  split
  · rename_i h
    simp only [reduceCtorEq, false_iff, not_and]
    rintro rfl rfl
    simp only [List.length_append] at h; omega
  · rename_i h
    simp only [Option.some.injEq, Prod.mk.injEq]
    constructor
    · rintro ⟨rfl, rfl⟩
      exact ⟨List.length_take_of_le (by omega), (List.take_append_drop n b).symm⟩
    · rintro ⟨rfl, rfl⟩
      simp

theorem Extends.takeN (n : Nat) : Extends (takeN n) (takeN n) where
  ext b x r more h := by
    obtain ⟨hx, rfl⟩ := (takeN_eq_some n b x r).mp h
    exact (takeN_eq_some _ _ _ _).mpr ⟨hx, by simp⟩
  nogrow b x r h := by
    obtain ⟨_, rfl⟩ := (takeN_eq_some n b x r).mp h
    simp

theorem Framer.takeN (n : Nat) (hn : 0 < n) : Framer (takeN n) (takeN n) where
  toExtends := .takeN n
  progress b x r h := by
    obtain ⟨hx, rfl⟩ := (takeN_eq_some n b x r).mp h
    simp only [List.length_append]; omega

variable {S E : Type}

inductive Steps (p : Proto S E) : S → Bytes → List E → S → Bytes → Prop
  | refl (s : S) (b : Bytes) : Steps p s b [] s b
  | step {s b ev s1 r1 evs s' r} : p.next s b = some ((ev, s1), r1) → Steps p s1 r1 evs s' r →
      Steps p s b (ev ++ evs) s' r

namespace Steps
variable {p : Proto S E}

theorem one {s b ev s' r} (h : p.next s b = some ((ev, s'), r)) : Steps p s b ev s' r := by
  simpa using step h (refl s' r)

theorem trans {s b e1 s1 r1 e2 s2 r2} (h1 : Steps p s b e1 s1 r1) (h2 : Steps p s1 r1 e2 s2 r2) :
    Steps p s b (e1 ++ e2) s2 r2 := by
  induction h1 with
  | refl => exact h2
  | step hn _ ih => rw [List.append_assoc]; exact step hn (ih h2)

theorem append (hm : ∀ s, Mono (p.next s)) {s b evs s' r} (h : Steps p s b evs s' r) (more : Bytes) :
    Steps p s (b ++ more) evs s' (r ++ more) := by
  induction h with
  | refl => exact refl _ _
  | step hn _ ih => exact step (hm _ _ _ _ more hn) ih

/-- units that each bring the machine back to the state it was in, one after the other -/
theorem flatMap {U : Type} (bytes : U → Bytes) (evs : U → List E) (s : S) (us : List U)
    (h : ∀ u ∈ us, ∀ rest, Steps p s (bytes u ++ rest) (evs u) s rest) (rest : Bytes) :
    Steps p s (us.flatMap bytes ++ rest) (us.flatMap evs) s rest := by
  induction us with
  | nil => exact refl _ _
  | cons u us ih =>
    simp only [List.flatMap_cons, List.append_assoc]
    exact (h u List.mem_cons_self _).trans (ih fun v hv => h v (List.mem_cons_of_mem _ hv))

theorem map {U : Type} (bytes : U → Bytes) (ev : U → E) (s : S) (us : List U)
    (h : ∀ u ∈ us, ∀ rest, Steps p s (bytes u ++ rest) [ev u] s rest) (rest : Bytes) :
    Steps p s (us.flatMap bytes ++ rest) (us.map ev) s rest := by
  simpa [List.map_eq_flatMap] using flatMap bytes (fun u => [ev u]) s us h rest

end Steps

theorem next_nil_none {p : Proto S E} (hf : Framed p) (s : S) : p.next s [] = none := by
  cases h : p.next s [] with
  | none => rfl
  | some res => exact absurd ((hf s).progress [] res.1 res.2 h) (Nat.not_lt_zero _)

theorem steps_drain (p : Proto S E) (hp : ∀ s, Progress (p.next s)) : ∀ (n : Nat) (s : S) (b : Bytes), b.length < n →
    Steps p s b (drain p n s b).1 (drain p n s b).2.1 (drain p n s b).2.2 ∧
      p.next (drain p n s b).2.1 (drain p n s b).2.2 = none := by
  intro n
  induction n with
  | zero => intro s b h; omega
  | succ n ih =>
    intro s b h
    simp only [drain]
    cases hn : p.next s b with
    | none => exact ⟨.refl s b, hn⟩
    | some res =>
      have := ih res.1.2 res.2 (by have := hp s b res.1 res.2 hn; omega)
      exact ⟨.step hn this.1, this.2⟩

theorem drain_eq_of_steps (p : Proto S E) (hp : ∀ s, Progress (p.next s)) {s b evs s' r}
    (h : Steps p s b evs s' r) (hn : p.next s' r = none) : ∀ n, b.length < n → drain p n s b = (evs, s', r) := by
  induction h with
  | refl s b =>
    intro n hl
    obtain ⟨m, rfl⟩ : ∃ m, n = m + 1 := ⟨n - 1, by omega⟩
    simp [drain, hn]
  | step hnx _ ih =>
    intro n hl
    obtain ⟨m, rfl⟩ : ∃ m, n = m + 1 := ⟨n - 1, by omega⟩
    simp only [drain, hnx]
    rw [ih hn m (by have := hp _ _ _ _ hnx; omega)]

theorem steps_feed (p : Proto S E) (hp : ∀ s, Progress (p.next s)) (st : St S) (seg : Bytes) :
    Steps p st.s (st.buf ++ seg) (feed p st seg).1 (feed p st seg).2.s (feed p st seg).2.buf ∧
      p.next (feed p st seg).2.s (feed p st seg).2.buf = none :=
  steps_drain p hp _ st.s (st.buf ++ seg) (Nat.lt_succ_self _)

theorem feed_eq_of_steps (p : Proto S E) (hp : ∀ s, Progress (p.next s)) {st : St S} {seg evs s' r}
    (h : Steps p st.s (st.buf ++ seg) evs s' r) (hn : p.next s' r = none) :
    feed p st seg = (evs, { s := s', buf := r }) := by
  simp only [feed, drain_eq_of_steps p hp h hn _ (Nat.lt_succ_self _)]

theorem feed_append (p : Proto S E) (hf : Framed p) (st : St S) (a b : Bytes) :
    feed p st (a ++ b) = ((feed p st a).1 ++ (feed p (feed p st a).2 b).1, (feed p (feed p st a).2 b).2) := by
  have hp := fun s => (hf s).progress
  have h1 := steps_feed p hp st a
  have h2 := steps_feed p hp (feed p st a).2 b
  apply feed_eq_of_steps p hp _ h2.2
  rw [← List.append_assoc]
  exact (h1.1.append (fun s => (hf s).ext) b).trans h2.1

/-- In a state with no complete unit buffered (every state `feed` returns, and the initial one), a segmentation
behaves as its concatenation delivered at once. -/
theorem runSegs_eq_feed (p : Proto S E) (hf : Framed p) :
    ∀ (segs : List Bytes) (st : St S), p.next st.s st.buf = none → runSegs p st segs = feed p st segs.flatten := by
  have hp := fun s => (hf s).progress
  intro segs
  induction segs with
  | nil =>
    intro st h
    exact (feed_eq_of_steps p hp (by simpa using Steps.refl st.s st.buf) h).symm
  | cons a rest ih =>
    intro st _
    simp only [runSegs, List.flatten_cons]
    rw [ih _ (steps_feed p hp st a).2, feed_append p hf]

theorem eventsOf_eq_feed (p : Proto S E) (hf : Framed p) (s0 : S) (segs : List Bytes) :
    eventsOf p s0 segs =
      (feed p { s := s0, buf := [] } segs.flatten).1 ++
        p.finish (feed p { s := s0, buf := [] } segs.flatten).2.s (feed p { s := s0, buf := [] } segs.flatten).2.buf := by
  unfold eventsOf
  rw [runSegs_eq_feed p hf segs _ (next_nil_none hf s0)]

theorem eventsOf_eq_of_steps (p : Proto S E) (hf : Framed p)
    {s0 : S} {b : Bytes} {evs s' r} (h : Steps p s0 b evs s' r) (hn : p.next s' r = none)
    (segs : List Bytes) (hs : segs.flatten = b) : eventsOf p s0 segs = evs ++ p.finish s' r := by
  rw [eventsOf_eq_feed p hf, hs,
    feed_eq_of_steps p (fun s => (hf s).progress) (st := { s := s0, buf := [] }) (by simpa using h) hn]

theorem eventsOf_eq_of_steps_all (p : Proto S E) (hf : Framed p) {s0 : S} {b : Bytes} {evs s'}
    (h : Steps p s0 b evs s' []) (segs : List Bytes) (hs : segs.flatten = b) :
    eventsOf p s0 segs = evs ++ p.finish s' [] :=
  eventsOf_eq_of_steps p hf h (next_nil_none hf s') segs hs

/-- The segmentation theorem in the form the services use: one hypothesis `Framed p`. -/
theorem any_two_segmentations (p : Proto S E) (hf : Framed p) (s0 : S) (segs segs' : List Bytes)
    (h : segs.flatten = segs'.flatten) : eventsOf p s0 segs = eventsOf p s0 segs' := by
  rw [eventsOf_eq_feed p hf, eventsOf_eq_feed p hf, h]

end HT.Seg

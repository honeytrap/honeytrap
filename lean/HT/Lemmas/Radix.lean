import HT.Base
/-!
Positional notation.  The decimal and hexadecimal renderers of the request generators have one shape
(`Renders`); a left fold that appends one digit at a time reads such a rendering back.
-/
namespace HT.Radix

/-- `rev fuel n` lists the base-`B` digits of `n`, least significant first, each rendered by `dig` -/
structure Renders (B : Nat) (dig : Nat → UInt8) (rev : Nat → Nat → Bytes) : Prop where
  zero : ∀ n, rev 0 n = []
  succ : ∀ f n, rev (f + 1) n = if n < B then [dig n] else dig (n % B) :: rev f (n / B)

variable {B : Nat} {dig : Nat → UInt8} {rev : Nat → Nat → Bytes}

theorem Renders.ne_nil (h : Renders B dig rev) (f n : Nat) : rev (f + 1) n ≠ [] := by
  rw [h.succ]; split <;> simp

theorem Renders.mem (h : Renders B dig rev) (hB : 0 < B) : ∀ (f n : Nat) (d : UInt8), d ∈ rev f n → ∃ k, k < B ∧ d = dig k
  | 0, n, d, hd => by simp [h.zero] at hd
  | f + 1, n, d, hd => by
    rw [h.succ] at hd
    split at hd
    · exact ⟨n, ‹_›, by simpa using hd⟩
    · rcases List.mem_cons.mp hd with rfl | hd
      · exact ⟨n % B, Nat.mod_lt _ hB, rfl⟩
      · exact h.mem hB f _ d hd

/-- Reading the digits most significant first with a step that appends a digit gives the number back.
(`foldl` over the reversed list is `foldr` over the list, so the induction follows `rev`.) -/
theorem Renders.foldl (h : Renders B dig rev) (hB : 1 < B) {step : Option Nat → UInt8 → Option Nat}
    (hstep : ∀ a k, k < B → step (some a) (dig k) = some (a * B + k)) :
    ∀ (f n : Nat), n < f → (rev f n).reverse.foldl step (some 0) = some n := by
  intro f
  induction f with
  | zero => intro n hn; omega
  | succ f ih =>
    intro n hn
    rw [List.foldl_reverse, h.succ]
    split
    · rename_i hlt
      simp [hstep 0 n hlt]
    · rename_i hge
      rw [List.foldr_cons, ← List.foldl_reverse, ih (n / B) (by
        have := Nat.div_lt_self (n := n) (k := B) (by omega) hB
        omega), hstep _ _ (Nat.mod_lt _ (by omega))]
      congr 1
      exact Nat.div_add_mod' n B

/-- the two base-256 digits of a 16-bit number, as bytes, read back as the number -/
theorem be16 {n : Nat} (h : n < 65536) :
    (UInt8.ofNat (n / 256)).toNat * 256 + (UInt8.ofNat (n % 256)).toNat = n := by
  rw [UInt8.toNat_ofNat_of_lt' (Nat.div_lt_of_lt_mul h), UInt8.toNat_ofNat_of_lt' (Nat.mod_lt _ (by decide)),
    Nat.div_add_mod']

end HT.Radix

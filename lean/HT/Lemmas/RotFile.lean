import HT.Model.RotFile
/-! Lemmas for C07: what `choose` guarantees, and one induction principle for the loop of `Write`
from which the facts about bytes, whole lines and sizes follow. -/
namespace HT.Rot

theorem lastNLGo_spec (xs : Bytes) : ∀ (i : Nat) (acc : Option Nat) (j : Nat),
    lastNLGo xs i acc = some j → acc = some j ∨ ∃ m, j = i + m ∧ xs[m]? = some NL := by
  induction xs with
  | nil => intro i acc j h; exact Or.inl h
  | cons x xs ih =>
    intro i acc j h
    rcases ih _ _ j h with h1 | ⟨m, rfl, hm⟩
    · split at h1
      · rename_i hx
        cases h1
        exact Or.inr ⟨0, rfl, by rw [hx]; rfl⟩
      · exact Or.inl h1
    · exact Or.inr ⟨m + 1, Nat.succ_add_eq_add_succ i m, hm⟩

theorem lastNL_spec {p : Bytes} {n j : Nat} (h : lastNL p n = some j) : j < n ∧ p[j]? = some NL := by
  rcases lastNLGo_spec _ 0 none j h with h1 | ⟨m, rfl, hm⟩
  · cases h1
  · rw [List.getElem?_take] at hm
    rw [Nat.zero_add]
    split at hm
    · exact ⟨‹_›, hm⟩
    · cases hm

theorem firstNL_getElem {p : Bytes} {j : Nat} (h : firstNL p = some j) : p[j]? = some NL := by
  obtain ⟨hj, hp, _⟩ := List.findIdx?_eq_some_iff_getElem.mp h
  rw [List.getElem?_eq_getElem hj, of_decide_eq_true hp]

theorem lineCount_first {p : Bytes} {j : Nat} (h : firstNL p = some j) : lineCount (p.take (j + 1)) = 1 := by
  obtain ⟨hj, hp, hlt⟩ := List.findIdx?_eq_some_iff_getElem.mp h
  have hn : (p.take j).filter (· = NL) = [] := List.filter_eq_nil_iff.mpr fun a ha => by
    obtain ⟨i, hi, rfl⟩ := List.mem_take_iff_getElem.mp ha
    exact hlt i (Nat.lt_of_lt_of_le hi (Nat.min_le_left _ _))
  rw [lineCount, ← List.take_append_getElem hj, List.filter_append, hn, List.filter_cons_of_pos (by exact hp)]
  rfl

theorem firstNL_none {p : Bytes} (h : firstNL p = none) : NL ∉ p :=
  fun hm => by simpa using List.findIdx?_eq_none_iff.mp h NL hm

theorem choose_spec (max : Nat) (f : RF) (p : Bytes) :
    match choose max f p with
    | .fits => f.cur.length + p.length ≤ max
    | .cut j => j < max - f.cur.length ∧ p[j]? = some NL
    | .rotateFirst => f.cur ≠ []
    | .big j => f.cur = [] ∧ firstNL p = some j
    | .noNL => f.cur = [] ∧ firstNL p = none ∧ p ≠ [] := by
  fun_cases choose max f p
  next space j hj =>
    split at hj
    · exact lastNL_spec hj
    · cases hj
  next hl => exact List.ne_nil_of_length_pos hl
  next hl j hj => exact ⟨List.eq_nil_of_length_eq_zero (Nat.eq_zero_of_not_pos hl), hj⟩
  next hgt _ _ hl hn =>
    have h0 : f.cur = [] := List.eq_nil_of_length_eq_zero (Nat.eq_zero_of_not_pos hl)
    exact ⟨h0, hn, fun e => by rw [h0, e] at hgt; exact Nat.not_lt_zero _ hgt⟩
  next h => exact Nat.le_of_not_gt h

/-- the last byte is a newline -/
def EndsNL (b : Bytes) : Prop := b.getLast? = some NL

/-- whole lines only: nothing, or bytes that end in a newline (what the channel's writer hands to
`Write`, and what a log file should hold) -/
def Aligned (b : Bytes) : Prop := b = [] ∨ EndsNL b

theorem aligned_append {a b : Bytes} (ha : Aligned a) (hb : Aligned b) : Aligned (a ++ b) := by
  rcases hb with rfl | hb
  · rwa [List.append_nil]
  · exact Or.inr (by rw [EndsNL, List.getLast?_append, hb]; rfl)

theorem endsNL_take {p : Bytes} {j : Nat} (h : p[j]? = some NL) : EndsNL (p.take (j + 1)) := by
  rw [EndsNL, List.take_add_one, h]
  exact List.getLast?_concat

theorem aligned_drop {p : Bytes} {k : Nat} (h : Aligned p) : Aligned (p.drop k) := by
  by_cases hk : p.length ≤ k
  · exact Or.inl (List.drop_eq_nil_iff.mpr hk)
  · rcases h with rfl | h
    · exact Or.inl List.drop_nil
    · exact Or.inr (by rw [EndsNL, List.getLast?_drop, if_neg hk]; exact h)

/-- every file, rotated or active, holds whole lines only -/
def AllAligned (f : RF) : Prop := Aligned f.cur ∧ ∀ r ∈ f.rotated, Aligned r

/-- the size rule for one file: within the maximum, or a single line -/
def SizeOK (max : Nat) (b : Bytes) : Prop := b.length ≤ max ∨ lineCount b = 1

/-- the size rule holds of every file, rotated or active -/
def AllSizeOK (max : Nat) (f : RF) : Prop := SizeOK max f.cur ∧ ∀ r ∈ f.rotated, SizeOK max r

/-- `AllAligned` and `AllSizeOK` are both of this form -/
theorem all_rotate {Q : Bytes → Prop} {f : RF} (hnil : Q []) (h : Q f.cur ∧ ∀ r ∈ f.rotated, Q r) :
    Q (rotate f).cur ∧ ∀ r ∈ (rotate f).rotated, Q r :=
  ⟨hnil, fun r hr => (List.mem_append.mp hr).elim (h.2 r) fun hr => List.mem_singleton.mp hr ▸ h.1⟩

/-- progress measure of the loop in `Write`: twice the pending bytes, plus one while the active file
is not empty (a turn that writes nothing rotates, which empties it) -/
def mu (f : RF) (p : Bytes) : Nat := 2 * p.length + (if f.cur = [] then 0 else 1)

theorem write_mu (f : RF) (p : Bytes) : mu f p < 2 * p.length + 2 :=
  Nat.add_lt_add_left (by split <;> decide) _

/-- Induction over the loop of `Write`, for facts about whole lines and sizes.  `M f p r` reads: from
files `f` and pending bytes `p` the loop ends in `r`.
* `stop`: the turn puts all of `p` into the active file and ends (`fits`, `noNL`, or a `cut`/`big`
  that leaves nothing).  Its premise: this keeps the size rule, given that `p` is whole lines; the
  proviso is there because a `p` without any newline (`noNL`) is written to an empty file whatever
  its length.
* `next`: the turn puts `p.take k` there, rotates and goes on with `p.drop k`; `k = 0` for
  `rotateFirst`, else `p.take k` ends with a newline of `p`.  Its premises: these bytes are whole lines;
  writing them keeps the size rule (they fit, or are the first line and the file was empty); the
  induction hypothesis for the rest.
Fuel does not appear: `write` gives the loop more than `mu f p`, and `mu` falls at every `next`. -/
theorem writeLoop_induct (max : Nat) {M : RF → Bytes → RF → Prop}
    (stop : ∀ {f p}, (Aligned p → SizeOK max f.cur → SizeOK max (f.cur ++ p)) →
      M f p { f with cur := f.cur ++ p })
    (next : ∀ {f p k r}, Aligned (p.take k) → (SizeOK max f.cur → SizeOK max (f.cur ++ p.take k)) →
      M (rotate { f with cur := f.cur ++ p.take k }) (p.drop k) r → M f p r)
    (f : RF) (p : Bytes) : M f p (write max f p) := by
  suffices key : ∀ n f p, mu f p < n → M f p (writeLoop max n f p) from key _ f p (write_mu f p)
  clear f p
  intro n
  induction n with
  | zero => exact fun f p h => absurd h (Nat.not_lt_zero _)
  | succ n ih =>
    intro f p hn
    -- `cut j` and `big j` are the same code
    have chunk : ∀ j, p[j]? = some NL → SizeOK max (f.cur ++ p.take (j + 1)) →
        M f p (if (p.drop (j + 1)).isEmpty then { f with cur := f.cur ++ p.take (j + 1) }
          else writeLoop max n (rotate { f with cur := f.cur ++ p.take (j + 1) }) (p.drop (j + 1))) := by
      intro j hj hs
      by_cases hl : p.length ≤ j + 1
      · rw [if_pos (List.isEmpty_iff.mpr (List.drop_eq_nil_iff.mpr hl))]
        rw [List.take_of_length_le hl] at hs ⊢
        exact stop fun _ _ => hs
      · rw [if_neg fun h => hl (List.drop_eq_nil_iff.mp (List.isEmpty_iff.mp h))]
        refine next (Or.inr (endsNL_take hj)) (fun _ => hs) (ih _ _ ?_)
        -- `2 * (p.length - (j + 1)) < 2 * p.length ≤ mu f p ≤ n`
        show 2 * (p.drop (j + 1)).length < n
        rw [List.length_drop]
        exact Nat.lt_of_lt_of_le ((Nat.mul_lt_mul_left (by decide)).mpr
          (Nat.sub_lt (Nat.zero_lt_of_lt (Nat.lt_of_not_le hl)) (Nat.succ_pos j)))
          (Nat.le_trans (Nat.le_add_right _ _) (Nat.le_of_lt_succ hn))
    have hs := choose_spec max f p
    rw [writeLoop]
    generalize choose max f p = c at hs ⊢
    cases c
    case fits => exact stop fun _ _ => Or.inl (by rw [List.length_append]; exact hs)
    case noNL =>
      refine stop fun hp => ?_
      rcases hp with hp | hp
      · exact absurd hp hs.2.2
      · exact absurd (List.mem_of_getLast? hp) (firstNL_none hs.2.1)
    case rotateFirst =>
      -- `k = 0`; `mu` falls because the active file was not empty and now is
      have e : f.cur ++ p.take 0 = f.cur := List.append_nil _
      rw [mu, if_neg hs] at hn
      have := next (k := 0) (Or.inl rfl) (fun h => by rwa [e]) (ih _ _ (Nat.lt_of_succ_lt_succ hn))
      rwa [e] at this
    case cut j =>
      refine chunk j hs.2 (Or.inl ?_)
      rw [List.length_append]
      exact Nat.le_trans (Nat.add_le_add_left (List.length_take_le _ _) _) (Nat.add_lt_of_lt_sub' hs.1)
    case big j =>
      exact chunk j (firstNL_getElem hs.2) (Or.inr (by rw [hs.1]; exact lineCount_first hs.2))

theorem contents_rotate (f : RF) : contents (rotate f) = contents f := by
  simp [contents, rotate]

theorem write_contents (max : Nat) (f : RF) (p : Bytes) : contents (write max f p) = contents f ++ p :=
  writeLoop_induct max (M := fun f p r => contents r = contents f ++ p)
    (fun _ => by simp [contents])
    (fun _ _ ih => by rw [ih, contents_rotate]; simp [contents])
    f p

theorem write_aligned (max : Nat) (f : RF) (p : Bytes) :
    AllAligned f → Aligned p → AllAligned (write max f p) :=
  writeLoop_induct max (M := fun f p r => AllAligned f → Aligned p → AllAligned r)
    (fun _ hf hp => ⟨aligned_append hf.1 hp, hf.2⟩)
    (fun ha _ ih hf hp => ih (all_rotate (Or.inl rfl) ⟨aligned_append hf.1 ha, hf.2⟩) (aligned_drop hp))
    f p

theorem write_sizeOK (max : Nat) (f : RF) (p : Bytes) :
    AllSizeOK max f → Aligned p → AllSizeOK max (write max f p) :=
  writeLoop_induct max (M := fun f p r => AllSizeOK max f → Aligned p → AllSizeOK max r)
    (fun hs hf hp => ⟨hs hp hf.1, hf.2⟩)
    (fun _ hs ih hf hp => ih (all_rotate (Or.inl (Nat.zero_le _)) ⟨hs hf.1, hf.2⟩) (aligned_drop hp))
    f p

theorem length_mkLine {n : Nat} (h : 0 < n) : (mkLine n).length = n := by
  rw [mkLine, if_pos h, List.length_append, List.length_replicate]
  exact Nat.sub_add_cancel h

theorem endsNL_mkLine {n : Nat} (h : 0 < n) : EndsNL (mkLine n) := by
  simp [EndsNL, mkLine, h]

end HT.Rot

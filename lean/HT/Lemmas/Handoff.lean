import HT.Model.Handoff
/-! The hand-off with a kept signal, for the canary socket (C14) and the agent connection (C16). -/
namespace HT.Handoff

/-- the states `⟨buf, tok, r, w⟩` reachable with a kept signal; end of the protocol first, since most
steps lead there and membership is tested from the front -/
def reachable : List St :=
  [ ⟨false, false, .fin true, .fin⟩, ⟨false, true, .fin true, .fin⟩,
    ⟨true, true, .waiting, .fin⟩, ⟨true, true, .checked, .fin⟩, ⟨true, true, .check, .fin⟩,
    ⟨false, false, .fin true, .flush⟩,
    ⟨true, false, .waiting, .flush⟩, ⟨true, false, .checked, .flush⟩, ⟨true, false, .check, .flush⟩,
    ⟨false, false, .waiting, .write⟩, ⟨false, false, .checked, .write⟩, ⟨false, false, .check, .write⟩ ]

theorem reachable_step : ∀ s ∈ reachable, ∀ b, step true s b ∈ reachable := by decide

theorem reachable_finish : ∀ s ∈ reachable, (finish true s).r = .fin true := by decide

theorem reachable_run (sch : List Bool) : ∀ s ∈ reachable, run true sch s ∈ reachable := by
  induction sch with
  | nil => exact fun _ h => h
  | cons b bs ih => exact fun s h => ih _ (reachable_step s h b)

theorem delivers (sch : List Bool) : (finish true (run true sch init)).r = .fin true :=
  reachable_finish _ (reachable_run sch init (by decide))

theorem delivers_of_cap (cap : Nat) (h : 1 ≤ cap) (sch : List Bool) :
    (finish (decide (cap ≥ 1)) (run (decide (cap ≥ 1)) sch init)).r = .fin true := by
  rw [decide_eq_true h]; exact delivers sch

end HT.Handoff

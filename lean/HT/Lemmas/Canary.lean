import HT.Model.Canary
import HT.Lemmas.Packet
namespace HT.Can
open HT.Pkt

theorem handleTCP_total (cfg : Cfg) (st : St) (now : Nat) (s d : Bytes) (data : Bytes) (dr : Drawn) :
    NoFault (handleTCP cfg st now s d data dr) := by
  unfold handleTCP
  obtain ⟨⟨h, perr⟩, hr⟩ := tcpParse_total data
  rw [hr]
  refine .ite (.ok _) <| .ite (.ok _) <| .ite (.ok _) ?_
  -- whatever the lookup or `add` yields, both arms return
  dsimp only
  generalize (if hasFlag h.ctrl SYN ∧ ¬ hasFlag h.ctrl ACK then _ else _ :
    St × Option TCB × Option Nat) = p
  obtain ⟨_, _ | _, _⟩ := p <;> exact .ok _

/-- the receive loop: frames (with the time and the values drawn for each) folded
through `recvStep`; a fault ends the loop — and the process -/
def recvLoop (cfg : Cfg) : St → List (Bytes × Nat × Drawn) → Except Fault St
  | st, [] => .ok st
  | st, (f, now, d) :: rest =>
    match recvStep cfg st now f d with
    | .error e => .error e
    | .ok (st', _) => recvLoop cfg st' rest

/-- state-free description of "this frame is a UDP datagram the listener accepts" -/
def udpAccepted (cfg : Cfg) (frame : Bytes) : Bool :=
  match ethParse frame with
  | .ok eh =>
    eh.typ = 2048 &&
    (match ipv4Parse eh.payload with
     | .ok (some ip) => ip.proto = 17 && (match udpParse ip.payload with
        | .ok (some _) => cfg.myIPs.contains ip.dst
        | _ => false)
     | _ => false)
  | _ => false

theorem udpAccepted_parses {cfg : Cfg} {frame : Bytes} (h : udpAccepted cfg frame = true) :
    ∃ eh ip u, ethParse frame = .ok eh ∧ eh.typ = 2048 ∧ ipv4Parse eh.payload = .ok (some ip) ∧
      ip.proto = 17 ∧ udpParse ip.payload = .ok (some u) ∧ ip.dst ∈ cfg.myIPs := by
  unfold udpAccepted at h
  split at h
  · split at h
    · split at h
      · simp only [Bool.and_eq_true, decide_eq_true_eq, List.contains_iff_mem] at h
        exact ⟨_, _, _, ‹_›, h.1, ‹_›, h.2.1, ‹_›, h.2.2⟩
      · simp at h
    · simp at h
  · cases h

theorem udp_accepted_any_state (cfg : Cfg) (st : St) (now : Nat) (frame : Bytes) (d : Drawn)
    (h : udpAccepted cfg frame = true) : recvStep cfg st now frame d = .ok (st, .udp true) := by
  obtain ⟨eh, ip, u, he, ht, hi, hp, hu, hd⟩ := udpAccepted_parses h
  simp [recvStep, he, ht, hi, hp, hu, hd, bind, Except.bind, pure, Except.pure]

end HT.Can

import HT.Model.Ipp
import HT.Lemmas.Radix
/-! Under C17's IPP round trip: each reader undoes its encoder, from the fixed-width fields up to
the groups of a message. -/
namespace HT.Ipp

def Inverts {α : Type} (rd : Bytes → Option (α × Bytes)) (enc : α → Bytes) (ok : α → Prop) : Prop :=
  ∀ v r, ok v → rd (enc v ++ r) = some (v, r)

theorem rd16_enc16 : Inverts rd16 enc16 (· < 65536) :=
  fun _ r h => congrArg (fun v => some (v, r)) (Radix.be16 h)

/- The top byte is `n / 2^24` itself; below it `q / 256 * 256 + q % 256 = q` three times over.
(`omega` on the quotients by 2^24 and 2^16 is slow to check.) -/
theorem rd32_enc32 : Inverts rd32 enc32 (· < 4294967296) := by
  intro n r h
  have h3 : n / 16777216 % 256 = n / 256 / 256 / 256 := by
    rw [Nat.mod_eq_of_lt (Nat.div_lt_of_lt_mul h), Nat.div_div_eq_div_mul, Nat.div_div_eq_div_mul]
  have h2 : n / 65536 = n / 256 / 256 := (Nat.div_div_eq_div_mul n 256 256).symm
  simp only [enc32, rd32, List.cons_append, List.nil_append, UInt8.toNat_ofNat', Nat.mod_mod, h3, h2,
    Nat.div_add_mod']

theorem rdData_encData : Inverts rdData encData (·.length < 32768) := by
  intro s r h
  have h1 : ¬ s.length ≥ 32768 := Nat.not_le_of_gt h
  simp [rdData, encData, rd16_enc16 _ _ (Nat.lt_trans h (by decide)), h1]

theorem rdInt_encInt : Inverts rdInt encInt (· < 4294967296) := by
  intro n r h
  simp only [rdInt, encInt, List.append_assoc, rd16_enc16 4 _ (by decide), rd32_enc32 n r h]

theorem rdBool_encBool : Inverts rdBool encBool fun _ => True := by
  intro b r _
  simp only [rdBool, encBool, List.append_assoc, rd16_enc16 1 _ (by decide)]
  cases b <;> rfl

theorem fuel_append {a s : Bytes} {f : Nat} (h : (a ++ s).length ≤ f) : s.length ≤ f :=
  Nat.le_trans (by rw [List.length_append]; exact Nat.le_add_left ..) h

def Stops (tag : UInt8) (tail : Bytes) : Prop :=
  ∀ {α : Type} (rdV : Bytes → Option (α × Bytes)) (f : Nat), more rdV tag (f + 1) tail = some ([], tail)

variable {α : Type} {rdV : Bytes → Option (α × Bytes)} {encOne : α → Bytes} {ok : α → Prop}
  {tag : UInt8} {tail : Bytes}

theorem more_encRest (hrd : Inverts rdV encOne ok) (hs : Stops tag tail) (vs : List α) (hok : ∀ v ∈ vs, ok v)
    (f : Nat) (hf : (encRest tag encOne vs ++ tail).length ≤ f) :
    more rdV tag (f + 1) (encRest tag encOne vs ++ tail) = some (vs, tail) := by
  induction vs generalizing f with
  | nil => exact hs rdV f
  | cons v vs ih =>
    simp only [encRest, List.cons_append, List.append_assoc] at hf ⊢
    cases f with
    | zero => cases hf
    | succ f =>
      simp only [more, bne_self_eq_false, Bool.false_eq_true, if_false, rd16_enc16 0 _ (by decide),
        hrd v _ (hok v List.mem_cons_self),
        ih (fun x hx => hok x (List.mem_cons_of_mem _ hx)) f (fuel_append (fuel_append (Nat.le_of_succ_le_succ hf)))]

theorem kindOf_delim : ∀ n : Fin 6, kindOf (UInt8.ofNat n) = none := by decide

theorem kind_gt5 {t : UInt8} {k : Kind} (h : kindOf t = some k) : 5 < t.toNat :=
  Nat.lt_of_not_le fun h5 => by
    have := kindOf_delim ⟨t.toNat, Nat.lt_succ_of_le h5⟩
    rw [UInt8.ofNat_toNat, h] at this
    cases this

theorem decodeVal_encVal (v : Val) (h : v.wf = true) :
    ∃ k body, kindOf v.tag = some k ∧ (0 < v.name.length ∧ v.name.length < 32768) ∧
      encVal v = v.tag :: (encData v.name ++ body) ∧
      ∀ tail f, Stops v.tag tail → (body ++ tail).length ≤ f →
        decodeVal k v.tag (f + 1) (encData v.name ++ (body ++ tail)) = some (v, tail) := by
  cases v <;>
    simp only [Val.wf, Val.tag, Val.name, nameOk, Bool.and_eq_true, beq_iff_eq, decide_eq_true_eq,
      Bool.not_eq_true', List.all_eq_true] at h ⊢
  case ints tag name vals =>
    obtain ⟨⟨⟨hk, hn⟩, hne⟩, hall⟩ := h
    cases vals with
    | nil => cases hne
    | cons x xs =>
      refine ⟨_, encInt x ++ encRest tag encInt xs, hk, hn, congrArg _ (List.append_assoc ..), ?_⟩
      intro tail f hs hf
      simp only [List.append_assoc] at hf ⊢
      simp only [decodeVal, rdData_encData name _ hn.2, rdInt_encInt x _ (hall x List.mem_cons_self),
        more_encRest rdInt_encInt hs xs (fun v hv => hall v (List.mem_cons_of_mem _ hv)) f (fuel_append hf)]
  case strs tag name vals =>
    obtain ⟨⟨⟨hk, hn⟩, hne⟩, hall⟩ := h
    cases vals with
    | nil => cases hne
    | cons x xs =>
      refine ⟨_, encData x ++ encRest tag encData xs, hk, hn, congrArg _ (List.append_assoc ..), ?_⟩
      intro tail f hs hf
      simp only [List.append_assoc] at hf ⊢
      simp only [decodeVal, rdData_encData name _ hn.2, rdData_encData x _ (hall x List.mem_cons_self),
        more_encRest rdData_encData hs xs (fun v hv => hall v (List.mem_cons_of_mem _ hv)) f (fuel_append hf)]
  case bools tag name vals =>
    obtain ⟨⟨hk, hn⟩, hne⟩ := h
    cases vals with
    | nil => cases hne
    | cons x xs =>
      refine ⟨_, encBool x ++ encRest tag encBool xs, hk, hn, congrArg _ (List.append_assoc ..), ?_⟩
      intro tail f hs hf
      simp only [List.append_assoc] at hf ⊢
      simp only [decodeVal, rdData_encData name _ hn.2, rdBool_encBool x _ trivial,
        more_encRest rdBool_encBool hs xs (fun _ _ => trivial) f (fuel_append hf)]
  case range tag name lo hi =>
    obtain ⟨⟨⟨hk, hn⟩, hlo⟩, hhi⟩ := h
    refine ⟨_, enc16 8 ++ enc32 lo ++ enc32 hi, hk, hn, by simp only [encVal, List.append_assoc], fun tail f _ _ => ?_⟩
    simp only [decodeVal, List.append_assoc, rdData_encData name _ hn.2,
      rd16_enc16 8 _ (by decide), rd32_enc32 lo _ hlo, rd32_enc32 hi _ hhi]

def Delim : Bytes → Prop
  | [] => False
  | d :: _ => d.toNat ≤ 5

/-- What follows the values of an attribute never continues them: a delimiter is not an attribute
tag, and the next attribute has a name. -/
theorem stops_encVals (ht : 5 < tag.toNat) (hd : Delim tail) :
    ∀ vs : List Val, vs.all Val.wf = true → Stops tag (encVals vs ++ tail)
  | [], _ =>
    match tail, hd with
    | d :: _, hd => fun _ _ => if_pos (bne_iff_ne.mpr fun e => by subst e; exact Nat.not_le_of_gt ht hd)
  | v :: vs, hvs => by
    obtain ⟨_, body, -, hn, he, -⟩ := decodeVal_encVal v (Bool.and_eq_true_iff.mp hvs).1
    intro rdV f
    simp only [encVals, he, encData, List.cons_append, List.append_assoc, more,
      rd16_enc16 _ _ (Nat.lt_trans hn.2 (by decide)), bne_iff_ne.mpr (Nat.ne_of_gt hn.1), if_true, ite_self]

theorem groupVals_encVals (hd : Delim tail) (vs : List Val) (hall : vs.all Val.wf = true) (f : Nat)
    (hf : (encVals vs ++ tail).length ≤ f) : groupVals (f + 1) (encVals vs ++ tail) = some (vs, tail) := by
  induction vs generalizing f with
  | nil =>
    match tail, hd with
    | _ :: _, hd => exact if_pos hd
  | cons v vs ih =>
    simp only [List.all_cons, Bool.and_eq_true] at hall
    obtain ⟨k, body, hk, -, he, hdec⟩ := decodeVal_encVal v hall.1
    have hgt := kind_gt5 hk
    simp only [encVals, he, List.cons_append, List.append_assoc] at hf ⊢
    cases f with
    | zero => cases hf
    | succ f =>
      have hf' := fuel_append (Nat.le_of_succ_le_succ hf)
      simp only [groupVals, if_neg (Nat.not_le_of_gt hgt), hk,
        hdec _ f (stops_encVals hgt hd vs hall.2) hf', ih hall.2 f (fuel_append hf')]

theorem delim_encGroups (data : Bytes) : ∀ gs : List Group, gs.all Group.wf = true →
    Delim (encGroups gs ++ 3 :: data)
  | [], _ => show (3 : UInt8).toNat ≤ 5 by decide
  | g :: _, h => by
    simp only [List.all_cons, Group.wf, Bool.and_eq_true, decide_eq_true_eq] at h
    exact h.1.1.1

theorem groups_encGroups (data : Bytes) (gs : List Group) (hall : gs.all Group.wf = true) (f : Nat)
    (hf : (encGroups gs ++ 3 :: data).length ≤ f) : groups (f + 1) (encGroups gs ++ 3 :: data) = some (gs, data) := by
  induction gs generalizing f with
  | nil => rfl
  | cons g gs ih =>
    simp only [List.all_cons, Group.wf, Bool.and_eq_true, bne_iff_ne, ne_eq] at hall
    obtain ⟨⟨⟨-, h3⟩, hv⟩, hgs⟩ := hall
    simp only [encGroups, encGroup, List.cons_append, List.append_assoc] at hf ⊢
    cases f with
    | zero => cases hf
    | succ f =>
      have hf' := Nat.le_of_succ_le_succ hf
      simp only [groups, beq_iff_eq, h3, if_false, groupVals_encVals (delim_encGroups data gs hgs) g.vals hv f hf',
        ih hgs f (fuel_append hf')]

end HT.Ipp

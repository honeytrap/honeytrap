import HT.Model.Proto
import HT.Lemmas.Radix
/-!
What the text functions of `HT.Model.Proto` (`digitsVal`, `parseUint`, `splitOn`, `trimSpaces`) do on the strings the
request generators print: decimal numbers, space-separated words, values without blanks.
-/
namespace HT.Proto

/-- digits of `n`, least significant first; `fuel` bounds the number of digits -/
def digitsRev : Nat → Nat → Bytes
  | 0, _ => []
  | fuel + 1, n => if n < 10 then [UInt8.ofNat (48 + n)] else UInt8.ofNat (48 + n % 10) :: digitsRev fuel (n / 10)

def natDigits (n : Nat) : Bytes := (digitsRev (n + 1) n).reverse

theorem digit_toNat (k : Nat) (h : k < 10) : (UInt8.ofNat (48 + k)).toNat = 48 + k :=
  UInt8.toNat_ofNat_of_lt' (Nat.lt_trans (Nat.add_lt_add_left h 48) (by decide))

theorem digitsRev_renders : Radix.Renders 10 (fun k => UInt8.ofNat (48 + k)) digitsRev :=
  ⟨fun _ => rfl, fun _ _ => rfl⟩

theorem natDigits_ne_nil (n : Nat) : natDigits n ≠ [] := by
  simpa [natDigits] using digitsRev_renders.ne_nil n n

theorem natDigits_mem (n : Nat) (d : UInt8) (h : d ∈ natDigits n) : 48 ≤ d.toNat ∧ d.toNat ≤ 57 := by
  obtain ⟨k, hk, rfl⟩ := digitsRev_renders.mem (by omega) _ _ d (by simpa [natDigits] using h)
  rw [digit_toNat k hk]; omega

theorem digitsVal_natDigits (n : Nat) : digitsVal (natDigits n) = some n := by
  have hne := natDigits_ne_nil n
  unfold natDigits at hne ⊢
  unfold digitsVal
  split
  · contradiction
  · refine digitsRev_renders.foldl (by omega) (fun a k hk => ?_) (n + 1) n (Nat.lt_succ_self n)
    have := digit_toNat k hk
    simp only [this]
    rw [if_pos (by omega)]
    congr 2; omega

theorem parseUint_natDigits (n : Nat) (h : n < 2 ^ 64) : parseUint (natDigits n) = some n := by
  simp [parseUint, digitsVal_natDigits, h]

theorem natDigits_no_lf (n : Nat) : lf ∉ natDigits n := fun hm => by
  have := natDigits_mem n lf hm
  simp [lf] at this

theorem splitOn_nosep (sep : UInt8) (w : Bytes) (h : sep ∉ w) : splitOn sep w = [w] := by
  induction w with
  | nil => rfl
  | cons c cs ih =>
    have hc : (c == sep) = false := by simpa using fun e : c = sep => h (by simp [e])
    simp [splitOn, ih (fun hm => h (List.mem_cons_of_mem _ hm)), hc]

theorem splitOn_word (sep : UInt8) (w rest : Bytes) (h : sep ∉ w) :
    splitOn sep (w ++ sep :: rest) = w :: splitOn sep rest := by
  induction w with
  | nil =>
    simp only [List.nil_append, splitOn]
    cases splitOn sep rest <;> simp
  | cons c cs ih =>
    have hc : (c == sep) = false := by simpa using fun e : c = sep => h (by simp [e])
    simp only [List.cons_append, splitOn, ih (fun hm => h (List.mem_cons_of_mem _ hm)), hc, Bool.false_eq_true, if_false]

theorem trimSpaces_noblank (l : Bytes) (h : ∀ d ∈ l, d ≠ 32 ∧ d ≠ 9) : trimSpaces l = l := by
  have hd : ∀ (l : Bytes), (∀ d ∈ l, d ≠ 32 ∧ d ≠ 9) → l.dropWhile (fun c => c == 32 || c == 9) = l := by
    intro l hl
    cases l with
    | nil => rfl
    | cons a as => simp [hl a List.mem_cons_self]
  unfold trimSpaces
  rw [hd l h, hd _ fun d hd => h d (List.mem_reverse.mp hd), List.reverse_reverse]

theorem trimSpaces_sp (l : Bytes) : trimSpaces (sp :: l) = trimSpaces l := by
  simp [trimSpaces, sp]

end HT.Proto

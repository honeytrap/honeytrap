import HT.Model.Packet
/-! `NoFault` is closed under the shapes the models are written in (`.ok`, `if`, `>>=`): a
totality proof follows the control flow and stops at the calls that can fault. -/
namespace HT.Pkt

def NoFault {α : Type} (r : Except Fault α) : Prop := ∃ a, r = .ok a

namespace NoFault
variable {α β : Type} {c : Prop} [Decidable c] {x y : Except Fault α}

theorem ok (a : α) : NoFault (.ok a : Except Fault α) := ⟨a, rfl⟩

theorem ite_of (hx : c → NoFault x) (hy : ¬ c → NoFault y) : NoFault (if c then x else y) := by
  split
  · exact hx ‹_›
  · exact hy ‹_›

theorem ite (hx : NoFault x) (hy : NoFault y) : NoFault (if c then x else y) :=
  ite_of (fun _ => hx) (fun _ => hy)

theorem bind {f : α → Except Fault β} (hx : NoFault x) (hf : ∀ a, NoFault (f a)) :
    NoFault (x >>= f) := by
  obtain ⟨a, rfl⟩ := hx
  exact hf a

end NoFault

theorem ok_guard {α : Type} {c : Prop} [Decidable c] {a : α} {y : Except Fault α} {P : α → Prop}
    (ha : P a) (hy : ∃ r, y = .ok r ∧ P r) : ∃ r, (if c then .ok a else y) = .ok r ∧ P r := by
  split
  · exact ⟨a, rfl, ha⟩
  · exact hy

theorem slice_noFault {b : Bytes} {lo hi : Int} (h0 : 0 ≤ lo) (h1 : lo ≤ hi) (h2 : hi ≤ b.length) :
    NoFault (slice b lo hi) := by
  unfold slice; rw [if_pos ⟨h0, h1, h2⟩]; exact .ok _

/-- the guards before `b[20:TotalLen]` leave `20 ≤ TotalLen ≤ len(b)` -/
theorem ipv4Parse_total (b : Bytes) : NoFault (ipv4Parse b) :=
  .ite (.ok _) <| .ite (.ok _) <| .ite_of (fun _ => .ok _) fun hmax => .ite_of (fun _ => .ok _) fun hmin =>
    .bind (slice_noFault (by decide) (by simp at hmin; omega) (by have := hmax; omega)) fun _ => .ok _

theorem optLoop_total : ∀ (fuel : Nat) (data : Bytes) (acc : List TcpOpt),
    NoFault (optLoop true fuel data acc)
  | 0, _, _ => .ok _
  | _ + 1, [], _ => .ok _
  | n + 1, [_], _ => .ite (.ok _) <| .ite (optLoop_total n _ _) (.ok _)
  | n + 1, _ :: _ :: _, _ =>
    .ite (.ok _) <| .ite (optLoop_total n _ _) <| .ite (.ok _) <| .ite (.ok _) (optLoop_total n _ _)

theorem tcpParse_total (b : Bytes) : NoFault (tcpParse b) := by
  -- the first arm, `if guard then .ok _ else .error .panic`, reduces to `.ok _` at `guard := true`
  refine .ite (.ok _) <| .ite (.ok _) <| .ite (.ok _) ?_
  dsimp only
  generalize optLoop _ _ _ _ = r, optLoop_total _ _ _ = hr
  obtain ⟨_ | _, rfl⟩ := hr <;> exact .ok _

theorem udpParse_total (b : Bytes) : NoFault (udpParse b) :=
  .ite (.ok _) <| .ite (.ok _) (.ok _)

theorem icmpParse_total (b : Bytes) : NoFault (icmpParse b) :=
  .ite (.ok _) (.ok _)

theorem ethParse_total (b : Bytes) (h : 14 ≤ b.length) : NoFault (ethParse b) := by
  unfold ethParse; rw [if_pos h]; exact .ok _

end HT.Pkt

import HT.Model.Canary
import HT.Lemmas.Packet
/-! One equation per stage of `segStep` (`ackStage`, `textStage`, `finStage`), each giving the
next TCB as a record over the old one: that a stage leaves a field alone is then `rfl`. -/
namespace HT.Can
open HT.Pkt

/-- the TCB after `send`: only the IP id has advanced -/
theorem send_fst (cfg : Cfg) (s : TCB) (f : Nat) (p : Bytes) :
    (send cfg s f p).1 = { s with id := s.id + 1 } := rfl

theorem send_snd (cfg : Cfg) (s : TCB) (f : Nat) (p : Bytes) (h : cfg.arp.contains s.srcIP = true) :
    (send cfg s f p).2 = [Eff.tx (packet s f p)] := by
  unfold send; rw [if_pos h]

theorem ackOk_self (una nxt : UInt32) : ackOk una nxt nxt = true := by
  simp [ackOk]

structure IsData (h : Tcp) : Prop where
  ack : hasFlag h.ctrl ACK = true
  syn : hasFlag h.ctrl SYN = false
  rst : hasFlag h.ctrl RST = false
  fin : hasFlag h.ctrl FIN = false

/-- the TCB after a run of data segments -/
def dataRun (cfg : Cfg) (now : Nat) : TCB → List Tcp → TCB
  | s, [] => s
  | s, h :: hs => dataRun cfg now (segStep cfg s now h).s hs

def totalLen : List Tcp → Nat
  | [] => 0
  | h :: hs => h.payload.length + totalLen hs

variable {cfg : Cfg} {s s1 : TCB} {now : Nat} {h : Tcp} {ack : UInt32}

theorem ackStage_synRcvd (s : TCB) (hst : s.st = .synRcvd) (hok : ackOk s.una s.nxt ack = true) :
    ackStage s ack = some { s with st := .estab, hdl := .waiting, una := ack } := by
  simp [ackStage, hst, hok]

theorem ackStage_estab (s : TCB) (hst : s.st = .estab) :
    ackStage s ack = some { s with una := if ackOk s.una s.nxt ack then ack else s.una } := by
  by_cases hk : ackOk s.una s.nxt ack = true
  · simp [ackStage, hst, hk]
  · simp [ackStage, hst, hk]
    -- left: `s` = its eta-expansion, in which `simp` has put `.estab` for `s.st`
    rw [← hst]

theorem textStage_estab (hst : s.st = .estab) :
    textStage cfg s h =
      let s' := { s with rbuf := ringWrite s.rbuf h.payload, rcv := s.rcv + .ofNat h.payload.length }
      ({ s' with id := if 0 < h.payload.length then s.id + 1 else s.id },
       if 0 < h.payload.length then (send cfg s' ACK []).2 else []) := by
  rw [textStage, if_pos (.inl hst)]
  split <;> rfl

/-- In every state the text stage changes only `rbuf`, `rcv` and `id`.  Written as a record over
`s` so that, after rewriting with it, every other field of the result is the field of `s` by `rfl`. -/
theorem textStage_keeps (cfg : Cfg) (s : TCB) (h : Tcp) :
    (textStage cfg s h).1 = { s with rbuf := (textStage cfg s h).1.rbuf, rcv := (textStage cfg s h).1.rcv,
                                     id := (textStage cfg s h).1.id } := by
  unfold textStage
  split
  · split <;> rfl
  · rfl

theorem finStage_estab (hst : s.st = .estab) :
    finStage cfg s h =
      let s' := { s with rcv := .ofNat h.seq + .ofNat h.payload.length + 1 }
      ({ s' with id := s.id + 1, nxt := s.nxt + 1, st := .closeWait }, (send cfg s' (FIN + ACK) []).2, true) :=
  if_pos (.inr hst)

theorem segStep_acked (hack : hasFlag h.ctrl ACK = true) (hsyn : hasFlag h.ctrl SYN = false)
    (hrst : hasFlag h.ctrl RST = false) :
    segStep cfg s now h = ackedStep cfg { s with t := now } h := by
  simp [segStep, hack, hsyn, hrst]

theorem seg_text (hd : IsData h) (ha : ackStage { s with t := now } (.ofNat h.ack) = some s1)
    (h1 : s1.st = .estab) :
    let s2 := { s1 with rbuf := ringWrite s1.rbuf h.payload, rcv := s1.rcv + .ofNat h.payload.length }
    (segStep cfg s now h).s = { s2 with id := if 0 < h.payload.length then s1.id + 1 else s1.id } ∧
    (segStep cfg s now h).eff = if 0 < h.payload.length then (send cfg s2 ACK []).2 else [] := by
  simp only [segStep_acked hd.ack hd.syn hd.rst, ackedStep, ha, hd.fin, textStage_estab h1]
  exact ⟨rfl, rfl⟩

theorem seg_data (cfg : Cfg) (now : Nat) (hst : s.st = .estab) (hd : IsData h) :
    (segStep cfg s now h).s.st = .estab ∧
    (segStep cfg s now h).s.rcv = s.rcv + .ofNat h.payload.length :=
  have e := (seg_text (cfg := cfg) hd (ackStage_estab { s with t := now } hst) hst).1
  ⟨(congrArg TCB.st e).trans hst, congrArg TCB.rcv e⟩

theorem seg_fin (hack : hasFlag h.ctrl ACK = true) (hsyn : hasFlag h.ctrl SYN = false)
    (hrst : hasFlag h.ctrl RST = false) (hfin : hasFlag h.ctrl FIN = true)
    (ha : ackStage { s with t := now } (.ofNat h.ack) = some s1) (h1 : s1.st = .estab) :
    let s2 := { (textStage cfg s1 h).1 with rcv := .ofNat h.seq + .ofNat h.payload.length + 1 }
    (segStep cfg s now h).s = { s2 with id := s2.id + 1, nxt := s2.nxt + 1, st := .closeWait } ∧
    (segStep cfg s now h).eff = (textStage cfg s1 h).2 ++ (send cfg s2 (FIN + ACK) []).2 := by
  simp only [segStep_acked hack hsyn hrst, ackedStep, ha, hfin, if_true, and_self,
    finStage_estab ((congrArg TCB.st (textStage_keeps cfg s1 h)).trans h1)]

/-- a segment that opens no connection touches at most the state `StateTable.Get` resolves it to -/
theorem handleTCP_lookup (cfg : Cfg) (st : St) (now : Nat) (src dst : Bytes) (d : Drawn)
    {data : Bytes} {perr : Bool} (hp : tcpParse data = .ok (h, perr))
    (hns : ¬ (hasFlag h.ctrl SYN = true ∧ ¬ hasFlag h.ctrl ACK = true)) :
    ∃ r, handleTCP cfg st now src dst data d = .ok r ∧ (r = (st, []) ∨
      ∃ i s, getIdx st.slots src dst h.sport h.dport = some i ∧ st.slots.getD i none = some s ∧
        r = ({ slots := st.slots.set i
                (if (segStep cfg s now h).remove then none else some (wake cfg (segStep cfg s now h)).1) },
             (wake cfg (segStep cfg s now h)).2)) := by
  unfold handleTCP
  rw [hp]
  refine ok_guard (.inl rfl) <| ok_guard (.inl rfl) <| ok_guard (.inl rfl) ?_
  dsimp only
  rw [if_neg hns]
  cases hg : getIdx st.slots src dst h.sport h.dport with
  | none => exact ⟨_, rfl, .inl rfl⟩
  | some i =>
    rw [Option.bind_some]
    cases hc : st.slots.getD i none with
    | none => exact ⟨_, rfl, .inl rfl⟩
    | some s => exact ⟨_, rfl, .inr ⟨i, s, rfl, hc, rfl⟩⟩

end HT.Can

import HT.Model.Chunked
import HT.Lemmas.Proto
/-!
The http machines of `HT.Model.Relay` and `HT.Model.Chunked` are framed: the head (`headLines`, read with fuel taken from
the length of the input), the proxy's unit, the service with `Content-Length` bodies, the one-request services, and the
service with chunked bodies.
-/
namespace HT.Relay
open HT.Seg HT.Proto

theorem headLines_framer : ∀ f g, f ≤ g → Framer (headLines f) (headLines g)
  | 0, _, _ => .fail _
  | f + 1, g + 1, h => by
    unfold headLines
    exact Framer.line.bind fun l =>
      .ite _ (.pure _) ((headLines_framer f g (Nat.le_of_succ_le_succ h)).toExtends.bind fun _ => .pure _)

theorem head_framer {α : Type} (k : List Bytes → P α) (hk : ∀ ls, Extends (k ls) (k ls)) :
    Framer (fun b => bindP (headLines (b.length + 1)) k b) (fun b => bindP (headLines (b.length + 1)) k b) :=
  Framer.atLen (q := fun f => bindP (headLines f) k) fun f g h => (headLines_framer f g h).bind hk

theorem httpUnit_framer : Framer httpUnit httpUnit := by
  refine head_framer _ fun ls => ?_
  -- every way out of the head is `pureP`, or `takeN` for the body
  repeat' split
  all_goals first | exact .pure _ | exact (Extends.takeN _).bind fun _ => .pure _

theorem httpProxy_framed : Framed httpProxy := fun s => by
  cases s
  · refine httpUnit_framer.bind fun r => ?_
    cases r <;> exact .pure _
  · exact .fail _

theorem httpHead_framer : Framer httpHead httpHead := head_framer _ fun _ => .pure _

theorem httpSvc_framed : Framed httpSvc := fun s => by
  cases s with
  | «open» =>
    refine httpHead_framer.bind fun r => ?_
    split <;> exact .pure _
  | body m t n => exact (Framer.takeN _ (by omega)).bind fun _ => .pure _
  | closed => exact .fail _

theorem oneSvc_framed (c : OneCfg) : Framed (oneSvc c) := fun s => by
  cases s with
  | «open» =>
    refine httpHead_framer.bind fun r => ?_
    split <;> exact .pure _
  | body m t n => exact (Framer.takeN _ (by omega)).bind fun _ => .pure _
  | closed => exact .fail _

theorem trailers_framer : ∀ f g, f ≤ g → Framer (trailers f) (trailers g)
  | 0, _, _ => .fail _
  | f + 1, g + 1, h => by
    unfold trailers
    exact Framer.line.bind fun l => .ite _ (.pure _) (trailers_framer f g (Nat.le_of_succ_le_succ h)).toExtends

theorem chunked_framer : ∀ f g, f ≤ g → Framer (chunked f) (chunked g)
  | 0, _, _ => .fail _
  | f + 1, g + 1, h => by
    have hfg := Nat.le_of_succ_le_succ h
    unfold chunked
    refine Framer.line.bind fun raw => ?_
    split
    · exact .pure _
    · exact (trailers_framer f g hfg).toExtends.bind fun _ => .pure _
    · exact (Extends.takeN _).bind fun d => Framer.line.toExtends.bind fun e =>
        .ite _ ((chunked_framer f g hfg).toExtends.bind fun _ => .pure _) (.pure _)

theorem chunkedAll_framer : Framer chunkedAll chunkedAll := Framer.atLen chunked_framer

theorem httpHeadC_framer : Framer httpHeadC httpHeadC := head_framer _ fun _ => .pure _

theorem httpSvcC_framed : Framed httpSvcC := fun s => by
  cases s with
  | «open» =>
    refine httpHeadC_framer.bind fun r => ?_
    split <;> exact .pure _
  | body m t n => exact (Framer.takeN _ (by omega)).bind fun _ => .pure _
  | chunk m t =>
    refine chunkedAll_framer.bind fun r => ?_
    split <;> exact .pure _
  | closed => exact .fail _

end HT.Relay

import HT.Model.Release
/-! The balance theorems of C09 rest on `held_append` and `ftpCmds_then_close`. -/
namespace HT.Rel

def Held.add (a b : Held) : Held := { goroutines := a.goroutines + b.goroutines, listeners := a.listeners + b.listeners }

theorem held_append (a b : List Op) : held (a ++ b) = (held a).add (held b) := by
  suffices ∀ h, b.foldl apply h = h.add (held b) by rw [held, List.foldl_append, this]; rfl
  induction b with
  | nil => intro h; simp [held, Held.add, Held.zero]
  | cons o os ih =>
    intro h
    rw [held, List.foldl_cons, List.foldl_cons, ih, ih (apply _ o)]
    cases o <;> simp [apply, Held.add, Held.zero, Int.sub_eq_add_neg, Int.add_assoc]

theorem ftpCmd_then_close (d : DSock) (c : FCmd) :
    held ((ftpCmd d c).1 ++ closeSock (ftpCmd d c).2) = held (closeSock d) := by
  cases c <;> cases d <;> decide

theorem ftpCmds_then_close : ∀ (cmds : List FCmd) (d : DSock),
    held ((ftpCmds d cmds).1 ++ closeSock (ftpCmds d cmds).2) = held (closeSock d) := by
  intro cmds
  induction cmds with
  | nil => exact fun d => rfl
  | cons c cs ih =>
    intro d
    rw [ftpCmds, List.append_assoc, held_append, ih, ← held_append, ftpCmd_then_close]

theorem ftpCmdsOld_pasv (k : Nat) (d : DSock) :
    held (ftpCmdsOld d (List.replicate k .pasv)).1 = { goroutines := k, listeners := k } := by
  induction k generalizing d with
  | zero => rfl
  | succ k ih =>
    rw [List.replicate_succ, ftpCmdsOld, held_append, ih]
    simp [ftpCmdOld, held, apply, Held.add, Held.zero, Int.add_comm]

end HT.Rel

import HT.Model.JA3
import HT.Lemmas.Radix
namespace HT.JA3

theorem u16_enc16 (n : Nat) (h : n < 65536) :
    u16 (UInt8.ofNat (n / 256)) (UInt8.ofNat (n % 256)) = n :=
  Radix.be16 h

theorem u16s_flatMap (gs : List Nat) (h : ∀ g ∈ gs, g < 65536) : u16s (gs.flatMap enc16) = gs := by
  induction gs with
  | nil => rfl
  | cons g gs ih =>
    rw [List.forall_mem_cons] at h
    show u16 _ _ :: u16s (gs.flatMap enc16) = _
    rw [u16_enc16 g h.1, ih h.2]

theorem length_flatMap_enc16 (gs : List Nat) : (gs.flatMap enc16).length = 2 * gs.length := by
  induction gs with
  | nil => rfl
  | cons g gs ih => rw [List.flatMap_cons, List.length_append, ih, List.length_cons, Nat.mul_succ, Nat.add_comm]; rfl

theorem decodeGroups_body (gs : List Nat) (h : ∀ g ∈ gs, g < 65536) (hl : 2 * gs.length < 65536) :
    decodeGroups (Ext.body (.groups gs)) = some gs := by
  simp only [Ext.body, enc16, List.cons_append, List.nil_append, decodeGroups]
  rw [u16_enc16 _ hl, length_flatMap_enc16, u16s_flatMap gs h]
  simp

theorem decodePoints_body (ps : List Nat) (h : ∀ p ∈ ps, p < 256) (hl : ps.length < 256) :
    decodePoints (Ext.body (.points ps)) = some ps := by
  simp only [Ext.body, List.cons_append, List.nil_append, decodePoints]
  rw [List.length_map, UInt8.toNat_ofNat_of_lt' hl, List.map_map, if_neg (by simp)]
  exact congrArg some ((List.map_congr_left fun p hp => UInt8.toNat_ofNat_of_lt' (h p hp)).trans (List.map_id ps))

theorem decodeSNI_body (name : Bytes) (hl : name.length + 3 < 65536) (hd : name.getLast? ≠ some 46) :
    decodeSNI (Ext.body (.sni name)) = some (some name) := by
  simp only [Ext.body, enc16, List.cons_append, List.nil_append, decodeSNI, List.length_cons, sniNames]
  rw [u16_enc16 _ hl, u16_enc16 _ (Nat.lt_of_le_of_lt (Nat.le_add_right ..) hl)]
  simp [hd]

def Ext.wf : Ext → Prop
  | .sni n => n.length + 3 < 65536 ∧ n.getLast? ≠ some 46
  | .groups gs => (∀ g ∈ gs, g < 65536) ∧ 2 * gs.length < 65536
  | .points ps => (∀ p ∈ ps, p < 256) ∧ ps.length < 256
  | .other t _ => t ≠ 0 ∧ t ≠ 10 ∧ t ≠ 11

def groupsOf (es : List Ext) : List (List Nat) := es.filterMap fun e => match e with | .groups gs => some gs | _ => none
def pointsOf (es : List Ext) : List (List Nat) := es.filterMap fun e => match e with | .points ps => some ps | _ => none
def snisOf (es : List Ext) : List Bytes := es.filterMap fun e => match e with | .sni n => some n | _ => none

def lastOr {α : Type} (l : List α) (d : α) : α := l.getLast?.getD d

theorem lastOr_cons {α : Type} (x : α) (xs : List α) (d : α) : lastOr (x :: xs) d = lastOr xs x :=
  congrArg (·.getD d) List.getLast?_cons

theorem lastOr_filterMap_cons {α β : Type} (f : α → Option β) (a : α) (l : List α) (d : β) :
    lastOr ((a :: l).filterMap f) d = lastOr (l.filterMap f) ((f a).getD d) := by
  rw [List.filterMap_cons]
  cases f a with
  | none => rfl
  | some b => exact lastOr_cons ..

/-- `lastOr (groupsOf [e]) c` is `e`'s list if `e` is a groups extension and `c` otherwise; in this form
each constructor reduces by `rfl` and the list folds with `lastOr_filterMap_cons`. -/
theorem parseExts_cons (e : Ext) (he : e.wf) (rest : List (Nat × Bytes)) (i : Info) :
    parseExts ((e.typ, e.body) :: rest) i = parseExts rest
      { extTypes := i.extTypes ++ [e.typ],
        curves := lastOr (groupsOf [e]) i.curves,
        points := lastOr (pointsOf [e]) i.points,
        serverName := lastOr (snisOf [e]) i.serverName } := by
  rw [parseExts]
  cases e with
  | sni n => rw [decodeSNI_body n he.1 he.2]; rfl
  | groups gs => rw [decodeGroups_body gs he.1 he.2]; rfl
  | points ps => rw [decodePoints_body ps he.1 he.2]; rfl
  | other t b => simp only [Ext.typ, he.1, he.2.1, he.2.2, if_false]; rfl

theorem parseExts_wire (es : List Ext) : ∀ (i : Info), (∀ e ∈ es, e.wf) →
    parseExts (es.map fun e => (e.typ, e.body)) i = some
      { extTypes := i.extTypes ++ es.map Ext.typ,
        curves := lastOr (groupsOf es) i.curves,
        points := lastOr (pointsOf es) i.points,
        serverName := lastOr (snisOf es) i.serverName } := by
  induction es with
  | nil => intro i _; simp only [List.map_nil, List.append_nil]; rfl
  | cons e es ih =>
    intro i hwf
    obtain ⟨he, hes⟩ := List.forall_mem_cons.1 hwf
    rw [List.map_cons, parseExts_cons e he, ih _ hes]
    simp only [groupsOf, pointsOf, snisOf, lastOr_filterMap_cons, List.map_cons, List.append_assoc]
    rfl

theorem flatMap_groups (es : List Ext) : es.flatMap Ext.groupsIn = (groupsOf es).flatten := by
  induction es with
  | nil => rfl
  | cons e es ih =>
    cases e with
    | groups gs => exact congrArg (gs ++ ·) ih
    | _ => exact ih

theorem flatMap_points (es : List Ext) : es.flatMap Ext.pointsIn = (pointsOf es).flatten := by
  induction es with
  | nil => rfl
  | cons e es ih =>
    cases e with
    | points ps => exact congrArg (ps ++ ·) ih
    | _ => exact ih

theorem lastOr_le_one (l : List (List Nat)) (h : l.length ≤ 1) : lastOr l [] = l.flatten :=
  match l, h with
  | [], _ => rfl
  | [x], _ => (List.append_nil x).symm

end HT.JA3

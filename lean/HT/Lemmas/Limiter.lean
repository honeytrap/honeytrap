import HT.Model.Limiter
namespace HT.Lim

theorem avail_le (T B : Nat) (s : Bk) (t : Nat) : avail T B s t ≤ B * T := Nat.min_le_left ..

theorem avail_mono (T B : Nat) (s : Bk) (t t' : Nat) (h : t ≤ t') :
    avail T B s t' ≤ avail T B s t + (t' - t) := by
  -- `unfold avail; omega` closes this too, but is slow to check
  have h1 : t' - s.last ≤ t - s.last + (t' - t) :=
    Nat.sub_le_iff_le_add.2 <| calc
      t' = t + (t' - t) := (Nat.add_sub_cancel' h).symm
      _ ≤ t - s.last + s.last + (t' - t) := Nat.add_le_add_right (Nat.le_add_of_sub_le (Nat.le_refl _)) _
      _ = _ := Nat.add_right_comm ..
  unfold avail
  rw [← Nat.add_min_add_right, Nat.add_assoc]
  exact Nat.le_min.2 ⟨Nat.le_trans (Nat.min_le_left ..) (Nat.le_add_right ..),
    Nat.le_trans (Nat.min_le_right ..) (Nat.add_le_add_left h1 _)⟩

theorem allow_grant {T B : Nat} {s : Bk} {t : Nat} {s' : Bk} (h : allow T B s t = (true, s')) :
    avail T B s' t + T = avail T B s t ∧ s'.last = t := by
  unfold allow at h
  split at h
  · cases h
    refine ⟨?_, rfl⟩
    show min (B * T) (avail T B s t - T + (t - t)) + T = _
    rw [Nat.sub_self, Nat.add_zero, Nat.min_eq_right (Nat.le_trans (Nat.sub_le ..) (avail_le ..)),
      Nat.sub_add_cancel ‹_›]
  · cases h

theorem allow_refuse (T B : Nat) (s : Bk) (t : Nat) (s' : Bk) (h : allow T B s t = (false, s')) :
    s' = s ∧ avail T B s t < T := by
  unfold allow at h
  split at h
  · cases h
  · cases h; exact ⟨rfl, Nat.lt_of_not_le ‹_›⟩

theorem reply_le_one (c : Cmd) : (if c.reply then 1 else 0) ≤ 1 := by split <;> decide

theorem handle_spec (T B : Nat) (t : Nat) (cmds : List Cmd) (s : Bk) :
    (handle T B s t cmds).1 ≤ (handle T B s t cmds).2.1 ∧
    avail T B (handle T B s t cmds).2.2 t + (handle T B s t cmds).2.1 * T = avail T B s t := by
  fun_induction handle T B s t cmds with
  | case1 | case2 => exact ⟨Nat.le_refl 0, by rw [Nat.zero_mul]; rfl⟩
  | case3 s c cs s' h => exact ⟨reply_le_one c, by rw [Nat.one_mul]; exact (allow_grant h).1⟩
  | case4 s c cs s' h _ r g s'' hh ih =>
    rw [hh] at ih
    exact ⟨Nat.add_comm .. ▸ Nat.add_le_add ih.1 (reply_le_one c),
      by rw [Nat.succ_mul, ← Nat.add_assoc, ih.2, (allow_grant h).1]⟩

theorem repliesTo_own (T B : Nat) (ip : String) (rs : List Req) : ∀ (st : LimSt),
    repliesTo T B ip st rs =
      repliesBk T B (st ip) ((rs.filter (fun r => r.ip = ip)).map (fun r => (r.t, r.cmds))) := by
  induction rs with
  | nil => intro st; rfl
  | cons r rs ih =>
    intro st
    rw [repliesTo, ih]
    by_cases h : r.ip = ip
    · subst h; simp [repliesBk, step, update]
    · simp [h, step, update, Ne.symm h]

theorem repliesBk_conserve (T B : Nat) (rs : List (Nat × List Cmd)) : ∀ (s : Bk) (lo hi : Nat),
    (∀ x ∈ rs, lo ≤ x.1 ∧ x.1 ≤ hi) → rs.Pairwise (fun a b => a.1 ≤ b.1) →
    repliesBk T B s rs * T ≤ avail T B s lo + (hi - lo) := by
  induction rs with
  | nil => intro s lo hi _ _; rw [repliesBk, Nat.zero_mul]; exact Nat.zero_le _
  | cons x xs ih =>
    intro s lo hi hmem hsort
    obtain ⟨t, cmds⟩ := x
    have ⟨hlo, hhi⟩ := hmem _ List.mem_cons_self
    have hp := List.pairwise_cons.mp hsort
    have ⟨hrg, hcons⟩ := handle_spec T B t cmds s
    have hrec := ih (handle T B s t cmds).2.2 t hi
      (fun y hy => ⟨hp.1 y hy, (hmem y (List.mem_cons_of_mem _ hy)).2⟩) hp.2
    rw [repliesBk, Nat.add_mul]
    generalize handle T B s t cmds = x at *
    calc _ ≤ x.2.1 * T + (avail T B x.2.2 t + (hi - t)) := Nat.add_le_add (Nat.mul_le_mul_right T hrg) hrec
      _ = avail T B s t + (hi - t) := by rw [← Nat.add_assoc, Nat.add_comm _ (avail ..), hcons]
      _ ≤ avail T B s lo + (t - lo) + (hi - t) := Nat.add_le_add_right (avail_mono T B s lo t hlo) _
      _ = _ := by rw [Nat.add_assoc, Nat.add_comm (t - lo), Nat.sub_add_sub_cancel hhi hlo]

end HT.Lim

import HT.Model.Event
namespace HT.Ev

theorem nib_roundtrip : ∀ n < 16, nibVal (hexNib n) = some n := by decide

theorem get_store_same (e : Event) (k : String) (v : Val) : get? (store e k v) k = some v := by
  simp [store, get?]

theorem get_store_other (e : Event) (k k' : String) (v : Val) (h : k' ≠ k) :
    get? (store e k v) k' = get? e k' := by
  rw [store, get?, List.find?_cons_of_neg (by simpa using h.symm), List.find?_filter, get?]
  congr 2
  funext kv
  by_cases hk : kv.1 = k' <;> simp [hk, h]

theorem has_iff (e : Event) (k : String) : has e k = true ↔ (get? e k).isSome = true := by
  rw [has, get?, Option.isSome_map, List.find?_isSome, List.any_eq_true]

theorem keys_store (e : Event) (k : String) (v : Val) :
    keys (store e k v) = k :: (keys e).filter (· ≠ k) := by
  simp [keys, store, List.filter_map, Function.comp_def]

end HT.Ev

import HT.Model.Confine
namespace HT.Conf

theorem step_eq (p : Proc) (e : Site × Outcome) :
    step p e =
      if p.alive = true ∧ confined e = true then
        ⟨true, p.ended + if e.1 == .handler then 1 else 0,
          p.errors + if e.1 == .handler && e.2 == .panicked then 1 else 0⟩
      else ⟨false, p.ended, p.errors⟩ := by
  obtain ⟨_ | _, n, m⟩ := p <;> rcases e with ⟨_ | _ | _, _ | _ | _⟩ <;> rfl

theorem run_confined (es : List (Site × Outcome)) (h : ∀ e ∈ es, confined e = true) (n m : Nat) :
    run ⟨true, n, m⟩ es =
      ⟨true, n + es.countP (·.1 == .handler), m + es.countP fun e => e.1 == .handler && e.2 == .panicked⟩ := by
  induction es generalizing n m with
  | nil => rfl
  | cons e es ih =>
    rw [run, List.foldl_cons, step_eq, if_pos ⟨rfl, h e List.mem_cons_self⟩, ← run,
      ih fun x hx => h x (List.mem_cons_of_mem _ hx), List.countP_cons, List.countP_cons]
    congr 1 <;> dsimp only <;> omega

theorem run_unconfined (p : Proc) (pre post : List (Site × Outcome)) {e : Site × Outcome}
    (he : confined e = false) : (run p (pre ++ e :: post)).alive = false := by
  rw [run, List.foldl_append, List.foldl_cons]
  -- the ending kills; dead stays dead
  refine List.foldlRecOn (motive := fun p => p.alive = false) post step ?_ fun p hp x _ => ?_
  · rw [step_eq, if_neg fun h => Bool.false_ne_true (he ▸ h.2)]
  · rw [step_eq, if_neg fun h => Bool.false_ne_true (hp ▸ h.1)]

/-- The fuel arithmetic of one iteration of `sshStrings`: the payload had `r + 4` bytes (a length prefix
and `r` more) and fitted fuel `f + 1`; what is passed on has `n ≤ r` bytes and fits fuel `f`. -/
theorem fuel_step {n r f : Nat} (hn : n ≤ r) (h : (r + 4) / 4 + 2 ≤ f + 1) : n / 4 + 2 ≤ f := by
  have := Nat.div_le_div_right (c := 4) hn
  rw [Nat.add_div_right _ (by decide)] at h
  omega

/-- One iteration per complete length prefix, one for a failed read, one to leave. -/
theorem sshStrings_ends (fuel : Nat) (b : Bytes) (err : Bool) (h : b.length / 4 + 2 ≤ fuel) :
    (sshStrings true fuel err b).isSome := by
  fun_induction sshStrings true fuel err b with
  | case1 => omega
  | case2 => rfl
  | case3 f err a b2 c d rest len _ _ ih =>
    -- `h` is about `(a :: b2 :: c :: d :: rest).length`, which is `rest.length + 4` by `rfl`
    rw [Option.isSome_map]; exact ih (fuel_step (r := rest.length) (Nat.le_refl _) h)
  | case4 f err a b2 c d rest len _ _ ih =>
    rw [Option.isSome_map]; exact ih (fuel_step (r := rest.length) (List.drop_sublist ..).length_le h)
  | case5 f err b _ _ ih =>
    -- fewer than four bytes: the read fails and the error ends the next iteration
    cases f with
    | zero => omega
    | succ f => simp [sshStrings]   -- unfolds the next iteration, which stops on the error

end HT.Conf

import HT.Model.Server
/-! Lemmas for C06, C08, C19: the port table through one induction principle, `findService`, and
the bus as maps and filters that commute with `flatMap`. -/
namespace HT.Srv

/-- two table keys that match the same concrete address match each other -/
theorem compareAddr_of_common_match (k1 k2 l : Addr) (hl : l.ip ≠ none)
    (h1 : compareAddr k1 l = true) (h2 : compareAddr k2 l = true) : compareAddr k1 k2 = true := by
  obtain ⟨p1, i1, n1⟩ := k1
  obtain ⟨p2, i2, n2⟩ := k2
  obtain ⟨pl, il, nl⟩ := l
  cases il with
  | none => exact absurd rfl hl
  | some x =>
    simp only [compareAddr, Bool.and_eq_true, decide_eq_true_eq] at *
    obtain ⟨⟨rfl, rfl⟩, r1⟩ := h1
    obtain ⟨⟨rfl, rfl⟩, r2⟩ := h2
    cases i1 <;> cases i2 <;> simp_all

def Incomparable (t : Table) : Prop := t.Pairwise (fun x y => compareAddr x.1 y.1 = false)

theorem addPort_eq (defined services : List String) (t : Table) (ps : String) :
    addPort defined services t ps = t ∨
    ∃ a, toAddr ps = .ok a ∧ services.filter (fun s => defined.contains s) ≠ [] ∧
      t.any (fun x => compareAddr x.1 a) = false ∧
      addPort defined services t ps = t ++ [(a, services.filter (fun s => defined.contains s))] := by
  fun_cases addPort defined services t ps
  case case3 a ha _ hne hc =>
    exact Or.inr ⟨a, ha, fun e => hne (List.isEmpty_iff.mpr e), eq_false_of_ne_true hc, rfl⟩
  all_goals exact Or.inl rfl

theorem foldl_addEntry_induct (defined : List String) {P : Table → Prop}
    (row : ∀ t a svcs, P t → svcs ≠ [] → (∀ s ∈ svcs, s ∈ defined) →
      t.any (fun x => compareAddr x.1 a) = false → P (t ++ [(a, svcs)]))
    (es : List PortEntry) {t : Table} (h : P t) : P (es.foldl (addEntry defined) t) :=
  List.foldlRecOn es _ h fun t ht e _ => by
    fun_cases addEntry defined t e
    · exact ht
    · refine List.foldlRecOn _ _ ht fun t ht ps _ => ?_
      rcases addPort_eq defined e.services t ps with h | ⟨a, -, hne, hc, h⟩ <;> rw [h]
      · exact ht
      · exact row t a _ ht hne (fun s hs => List.contains_iff_mem.mp (List.mem_filter.mp hs).2) hc

theorem scan_mem (peek : Option Bytes) (cs : List Svc) (peeked : Bool) (r : Svc × Via)
    (h : scan peek cs peeked = some r) : r.1 ∈ cs := by
  fun_induction scan peek cs peeked with
  | case1 => cases h  -- no candidate left
  | case2 => cases h; exact List.mem_cons_self  -- no detector
  | case3 => cases h  -- the peek failed
  | case4 => cases h; exact List.mem_cons_self  -- the detector accepts
  | case5 _ _ _ _ _ _ hp _ ih => exact List.mem_cons_of_mem _ (ih (hp ▸ h))  -- it rejects

theorem findService_mem (cs : List Svc) (peek : Option Bytes) (r : Svc × Via)
    (h : findService cs peek = some r) : r.1 ∈ cs := by
  unfold findService at h
  split at h
  · cases h
  · cases h; exact List.mem_cons_self
  · exact scan_mem peek _ false r h

/-- the first service that has no detector or whose detector accepts the peeked bytes -/
def firstAcceptor (p : Bytes) (cs : List Svc) : Option Svc :=
  cs.find? (fun s => match s.detector with | none => true | some d => accepts d p)

theorem scan_first_acceptor (p : Bytes) (cs : List Svc) : ∀ (peeked : Bool),
    (scan (some p) cs peeked).map (·.1) = firstAcceptor p cs := by
  induction cs with
  | nil => intro _; rfl
  | cons s rest ih =>
    intro pk
    unfold scan firstAcceptor
    rw [List.find?_cons]
    cases s.detector with
    | none => rfl
    | some d =>
      dsimp only
      cases accepts d p
      · exact ih true
      · rfl

theorem firstRead_prefix {segs : List Bytes} {b : Bytes} (h : firstRead segs = some b) :
    b <+: segs.flatten := by
  induction segs with
  | nil => cases h
  | cons s rest ih =>
    cases s with
    | nil => exact ih h
    | cons x xs => cases h; exact (List.take_prefix _ _).trans (List.prefix_append _ _)

theorem received_flatMap {α : Type} (g : α → List (String × Ev)) (l : List α) (ch : String) :
    received (l.flatMap g) ch = l.flatMap fun x => received (g x) ch := by
  simp only [received, List.filter_flatMap, List.map_flatMap]

theorem send_flatMap {α : Type} (rx : String → String → Bool) (g : α → List (String × Filter)) (l : List α)
    (e : Ev) : send rx (l.flatMap g) e = l.flatMap fun x => send rx (g x) e := by
  simp only [send, List.filter_flatMap, List.map_flatMap]

theorem map_const_filter_eq {α β : Type} [DecidableEq α] (l : List α) (q : α → Bool) (a : α) (b : β) :
    (l.filter fun x => decide (x = a) && q x).map (fun _ => b) =
      if q a then List.replicate (l.count a) b else [] := by
  have : (l.filter fun x => decide (x = a) && q x) = l.filter fun x => decide (x = a) && q a :=
    List.filter_congr fun x _ => by by_cases h : x = a <;> simp [h]
  rw [this]
  cases q a <;> simp [List.filter_eq]

theorem flatMap_filter_of_nil {α β : Type} {l : List α} {q : α → Bool} {g : α → List β}
    (h : ∀ a, q a = false → g a = []) : (l.filter q).flatMap g = l.flatMap g := by
  induction l with
  | nil => rfl
  | cons a l ih =>
    rw [List.filter_cons, List.flatMap_cons]
    cases hq : q a
    · rw [if_neg Bool.false_ne_true, ih, h a hq, List.nil_append]
    · rw [if_pos rfl, List.flatMap_cons, ih]

/-- what the subscriptions created by one filter deliver to `ch` for one event -/
theorem received_send_filter (rx : String → String → Bool) (defined : List String) (f : Filter) (e : Ev)
    (ch : String) :
    received (send rx ((f.channels.filter (fun c => defined.contains c)).map (fun c => (c, f))) e) ch =
      if admits rx f e && defined.contains ch then List.replicate (f.channels.count ch) e else [] := by
  simp only [received, send, List.filter_map, List.map_map, List.filter_filter, Function.comp_def]
  exact map_const_filter_eq _ _ ch e

theorem received_sendAll_wire (rx : String → String → Bool) (defined : List String) (fs : List Filter)
    (es : List Ev) (ch : String) :
    received (sendAll rx (wire defined fs) es) ch = es.flatMap fun e => fs.flatMap fun f =>
      if admits rx f e && defined.contains ch then List.replicate (f.channels.count ch) e else [] := by
  simp only [sendAll, wire, received_flatMap, send_flatMap, received_send_filter]

end HT.Srv

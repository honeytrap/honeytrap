import HT.Props.C04Chunked
import HT.Props.C04HttpOnce
/-!
# C04 — chunked bodies decode to what was encoded, for every chunking

A body `b` sent as any sequence of non-empty chunks `cs` (`cs.flatten = b`), each framed as
`<size in hex> CR LF <bytes> CR LF`, followed by `0 CR LF CR LF`, is decoded by the chunked-body machine to exactly
`b`, and what follows on the stream is left untouched — for bodies and chunk counts of any size.
-/
namespace HT.Relay
open HT.Seg HT.Proto

/-- lower-case hexadecimal digit -/
def hexChar (d : Nat) : UInt8 := if d < 10 then UInt8.ofNat (48 + d) else UInt8.ofNat (87 + d)

/-- digits of `n` in base 16, least significant first; `fuel` bounds their number -/
def hexRev : Nat → Nat → Bytes
  | 0, _ => []
  | fuel + 1, n => if n < 16 then [hexChar n] else hexChar (n % 16) :: hexRev fuel (n / 16)

def natHex (n : Nat) : Bytes := (hexRev (n + 1) n).reverse

theorem hexRev_renders : Radix.Renders 16 hexChar hexRev := ⟨fun _ => rfl, fun _ _ => rfl⟩

/-- the sixteen digits: each reads back as its value, and none is LF, `;`, a blank or a tab -/
theorem hexChar_spec : ∀ d, d < 16 → hexDigit (hexChar d) = some d ∧
    hexChar d ≠ lf ∧ hexChar d ≠ 59 ∧ hexChar d ≠ 32 ∧ hexChar d ≠ 9 := by decide

theorem natHex_mem (n : Nat) (c : UInt8) (h : c ∈ natHex n) : c ≠ lf ∧ c ≠ 59 ∧ c ≠ 32 ∧ c ≠ 9 := by
  obtain ⟨k, hk, rfl⟩ := hexRev_renders.mem (by omega) _ _ c (by simpa [natHex] using h)
  exact (hexChar_spec k hk).2

theorem hexVal_natHex (n : Nat) : hexVal (natHex n) = some n := by
  have hne : natHex n ≠ [] := by simpa [natHex] using hexRev_renders.ne_nil n n
  unfold natHex at hne ⊢
  unfold hexVal
  split
  · contradiction
  · exact hexRev_renders.foldl (by omega) (fun a k hk => by simp only [(hexChar_spec k hk).1]) (n + 1) n
      (Nat.lt_succ_self n)

theorem natHex_no_lf (n : Nat) : lf ∉ natHex n := fun h => (natHex_mem n lf h).1 rfl

theorem chunkSize_natHex (n : Nat) : chunkSize (natHex n) = some n := by
  have h1 : (natHex n).takeWhile (· != 59) = natHex n := by
    simpa using List.takeWhile_append_of_pos (l₂ := []) fun c hc => by simpa using (natHex_mem n c hc).2.1
  rw [chunkSize, h1, trimSpaces_noblank _ fun c hc => (natHex_mem n c hc).2.2, hexVal_natHex]

/-- the wire form of a chunked body -/
def renderChunks : List Bytes → Bytes
  | [] => [48, cr, lf, cr, lf]
  | c :: cs => natHex c.length ++ (cr :: lf :: (c ++ (cr :: lf :: renderChunks cs)))

theorem chunked_render : ∀ (cs : List Bytes), (∀ c ∈ cs, c ≠ []) → ∀ (fuel : Nat) (rest : Bytes),
    cs.length + 2 ≤ fuel → chunked fuel (renderChunks cs ++ rest) = some (some cs.flatten, rest) := by
  intro cs
  induction cs with
  | nil =>
    intro _ fuel rest hf
    obtain ⟨f, rfl⟩ : ∃ f, fuel = f + 2 := ⟨fuel - 2, by simp at hf; omega⟩
    have hl : line (renderChunks [] ++ rest) = some ([48, cr, lf], cr :: lf :: rest) :=
      line_crlf [48] (cr :: lf :: rest) (by decide)
    simp only [chunked, bindP, hl, show chunkSize (stripEOL [48, cr, lf]) = some 0 by decide, trailers,
      line_empty_crlf, show stripEOL [cr, lf] = [] by decide, List.isEmpty_nil, if_true, pureP, List.flatten_nil]
  | cons c cs ih =>
    intro hne fuel rest hf
    obtain ⟨f, rfl⟩ : ∃ f, fuel = f + 1 := ⟨fuel - 1, by simp at hf; omega⟩
    obtain ⟨k, hk⟩ : ∃ k, c.length = k + 1 :=
      ⟨c.length - 1, by have := List.length_pos_iff.mpr (hne c List.mem_cons_self); omega⟩
    have hl : line (renderChunks (c :: cs) ++ rest)
        = some (natHex c.length ++ [cr, lf], c ++ (cr :: lf :: (renderChunks cs ++ rest))) := by
      simpa [renderChunks] using line_crlf (natHex c.length) (c ++ (cr :: lf :: (renderChunks cs ++ rest))) (natHex_no_lf _)
    have ht : takeN (k + 1) (c ++ (cr :: lf :: (renderChunks cs ++ rest))) = some (c, cr :: lf :: (renderChunks cs ++ rest)) :=
      (takeN_eq_some _ _ _ _).mpr ⟨hk, rfl⟩
    have hih := ih (fun x hx => hne x (List.mem_cons_of_mem _ hx)) f rest (by simp at hf; omega)
    unfold chunked
    simp only [bindP, hl, hk, stripEOL_crlf, chunkSize_natHex, ht, line_empty_crlf,
      show stripEOL [cr, lf] = [] by decide, List.isEmpty_nil, if_true, hih, pureP, Option.map_some, List.flatten_cons]

/-- Every chunking of every body: the machine decodes exactly the body and leaves what follows. -/
theorem C04_chunked_decodes_what_was_encoded (cs : List Bytes) (h : ∀ c ∈ cs, c ≠ []) (rest : Bytes) :
    chunkedAll (renderChunks cs ++ rest) = some (some cs.flatten, rest) := by
  unfold chunkedAll
  apply chunked_render cs h
  -- every chunk contributes at least its size line's CR LF to the length
  have hlen : ∀ (l : List Bytes), l.length + 2 ≤ (renderChunks l).length := by
    intro l
    induction l with
    | nil => simp [renderChunks]
    | cons a as ih => simp only [renderChunks, List.length_cons, List.length_append]; omega
  have := hlen cs
  simp only [List.length_append]; omega

/-- non-vacuity: "Wi" + "ki!" -/
example : renderChunks [[87, 105], [107, 105, 33]] = [50, cr, lf, 87, 105, cr, lf, 51, cr, lf, 107, 105, 33, cr, lf, 48, cr, lf, cr, lf] := by
  decide

end HT.Relay

/- OBLIGATIONS
HT.Relay.C04_chunked_decodes_what_was_encoded
-/

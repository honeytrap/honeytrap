import HT.Model.Ipp
import HT.Lemmas.Ipp
/-!
# C17 — IPP requests decode to what was encoded (IPP part)

Statement (properties.jsonl): an IPP request built from the supported attribute types
decodes to the operation, request id, attributes and document data that were encoded; the
reply echoes version, request id, charset and language; and a print job's printer URI, user,
job name and document appear unchanged in the event.

`Msg.wf` is what "built from the supported attribute types" means: group tags are delimiter
tags other than the end tag, every attribute has a tag the decoder supports, a non-empty name
shorter than 2^15, at least one value, integers that fit 32 bits and strings shorter than 2^15.
No bound on the number of groups, attributes, values or on the document.
-/
namespace HT.Ipp

/-- Round trip: every well-formed request, of any size, decodes to exactly what was encoded —
version, operation, request id, every group with every attribute and all its values, and the
document that follows the end-of-attributes tag. -/
theorem C17_ipp_roundtrip (m : Msg) (h : m.wf = true) : decode (encode m) = some m := by
  simp only [Msg.wf, Bool.and_eq_true, decide_eq_true_eq] at h
  obtain ⟨⟨hop, hrid⟩, hg⟩ := h
  simp only [decode, encode, List.append_assoc, rd16_enc16 _ _ hop, rd32_enc32 _ _ hrid,
    groups_encGroups m.data m.groups hg _ (Nat.le_refl _)]

theorem encGroups_append (a b : List Group) : encGroups (a ++ b) = encGroups a ++ encGroups b := by
  induction a with
  | nil => rfl
  | cons g gs ih => simp [encGroups, ih]

/-- the first group of the reply: the request's operation-attributes group reduced to its
charset and natural-language attributes, values unchanged -/
theorem C17_ipp_reply_first_group (m : Msg) (og : Group) (h : opGroup m = some og) :
    replyGroups m = [{ tag := 1, vals := og.vals.filter isCharsetOrLang }] := by
  unfold replyGroups
  rw [h]
  have : og.tag = 1 := by
    have := List.find?_some h
    simpa using this
  simp [this]

theorem replyGroups_wf (m : Msg) (h : m.groups.all Group.wf = true) : (replyGroups m).all Group.wf = true := by
  unfold replyGroups
  cases hog : opGroup m with
  | none => rfl
  | some og =>
    have hw := List.all_eq_true.mp h og (List.mem_of_find?_eq_some hog)
    simp only [Group.wf, Bool.and_eq_true, List.all_eq_true, List.all_cons, List.all_nil, Bool.and_true] at hw ⊢
    exact ⟨hw.1, fun v hv => hw.2 v (List.mem_filter.mp hv).1⟩

/-- The reply, decoded by the same decoder, carries the request's version and request id, status 0,
the charset / language group first, then the operation's own groups (`extra`: nothing, the empty
printer group of CUPS-Get-Devices, or the printer description) and no document. -/
theorem C17_ipp_reply_echo (m : Msg) (h : m.wf = true) (g : Bytes) (extra : List Group)
    (hx : extra.all Group.wf = true) (hg : opPart m.op g = encGroups extra) :
    decode (reply m g) =
      some { maj := m.maj, min := m.min, op := 0, rid := m.rid, groups := replyGroups m ++ extra, data := [] } := by
  -- the reply is the encoding of that message, which is well-formed
  refine (congrArg decode ?_).trans (C17_ipp_roundtrip _ ?_)
  · simp only [reply, encode, hg, encGroups_append, List.append_assoc]
  · simp only [Msg.wf, Bool.and_eq_true, decide_eq_true_eq, List.all_append] at h ⊢
    exact ⟨⟨by decide, h.1.2⟩, replyGroups_wf m h.2, hx⟩

/-- the operations whose reply has no group of its own / the empty printer group -/
theorem C17_ipp_opPart_plain (op : Nat) (g : Bytes) (h1 : op ≠ 0x000b) :
    opPart op g = encGroups (if op = 0x400b then [{ tag := 4, vals := [] }] else []) := by
  unfold opPart
  by_cases h2 : op = 0x400b
  · subst h2; simp [encGroups, encGroup, encVals]
  · simp [h1, h2, encGroups]

theorem foldl_jobStep_other (name acc : Bytes) : ∀ post : List Val,
    (∀ v ∈ post, ∀ t' y ys, v ≠ .strs t' name (y :: ys)) → post.foldl (jobStep name) acc = acc
  | [], _ => rfl
  | v :: vs, h => by
    have step : jobStep name acc v = acc := by
      unfold jobStep
      split
      · next t' n y ys => exact if_neg fun hn => h _ List.mem_cons_self t' y ys (by rw [beq_iff_eq.mp hn])
      · rfl
    rw [List.foldl_cons, step]
    exact foldl_jobStep_other name acc vs fun v hv => h v (List.mem_cons_of_mem _ hv)

/-- `setPrintJobResponse` takes the first value of the last string attribute of that name -/
theorem C17_ipp_jobField_last (name : Bytes) (t : UInt8) (x : Bytes) (xs : List Bytes) (pre post : List Val)
    (hpost : ∀ v ∈ post, ∀ t' ys, v ≠ .strs t' name ys) :
    jobField (pre ++ .strs t name (x :: xs) :: post) name = x := by
  rw [jobField, List.foldl_append, List.foldl_cons,
    foldl_jobStep_other name _ post fun v hv t' y ys => hpost v hv t' (y :: ys)]
  exact if_pos (beq_self_eq_true name)

/-- A print job (operation 2), end to end through encode → decode → handler: the event carries the
document exactly, and the printer URI / user / job name are the values of those attributes of the
operation group (`C17_ipp_jobField_last` says which when a name repeats). -/
theorem C17_ipp_print_job_event (m : Msg) (h : m.wf = true) (hop : m.op = 2) (og : Group) (hog : opGroup m = some og) :
    (decode (encode m)).map evFields =
      some { uri := jobField og.vals nPrinterUri, user := jobField og.vals nUserName,
             job := jobField og.vals nJobName, data := m.data } := by
  rw [C17_ipp_roundtrip m h]
  simp [evFields, hop, hog]

/-- every operation: the event's `ipp.data` is the document -/
theorem C17_ipp_event_data (m : Msg) (h : m.wf = true) :
    (decode (encode m)).map (fun m' => (evFields m').data) = some m.data := by
  rw [C17_ipp_roundtrip m h]
  simp only [Option.map_some, evFields]
  split
  · split <;> rfl
  · rfl

/-! non-vacuity: a request using every supported value kind, several values, two groups and a document -/
def sample : Msg :=
  { maj := 2, min := 0, op := 2, rid := 77,
    groups := [
      { tag := 1, vals := [
          .strs 0x47 [97, 116, 116, 114, 105, 98, 117, 116, 101, 115, 45, 99, 104, 97, 114, 115, 101, 116] [[117, 116, 102, 45, 56]],
          .strs 0x48 [97, 116, 116, 114, 105, 98, 117, 116, 101, 115, 45, 110, 97, 116, 117, 114, 97, 108, 45, 108, 97, 110, 103, 117, 97, 103, 101] [[101, 110]],
          .strs 0x45 [112, 114, 105, 110, 116, 101, 114, 45, 117, 114, 105] [[105, 112, 112, 58, 47, 47, 104, 47, 112]],
          .strs 0x42 [114, 101, 113, 117, 101, 115, 116, 105, 110, 103, 45, 117, 115, 101, 114, 45, 110, 97, 109, 101] [[98, 111, 98], []],
          .ints 0x21 [99, 111, 112, 105, 101, 115] [1, 4294967295, 7],
          .bools 0x22 [102, 108, 97, 103] [true, false, true] ] },
      { tag := 2, vals := [ .range 0x33 [114] 1 100, .ints 0x23 [101] [3] ] } ],
    data := [0x25, 0x50, 0x44, 0x46, 3, 0x22, 0] }

theorem sample_wf : sample.wf = true := by decide

example : sample.wf = true := sample_wf
example : decode (encode sample) = some sample := C17_ipp_roundtrip sample sample_wf
example : (evFields sample).uri = [105, 112, 112, 58, 47, 47, 104, 47, 112] ∧ (evFields sample).user = [98, 111, 98] := by decide

/-- record of a defect repaired by a `fix:` commit (known-findings.txt), as the wire bytes that went
wrong: a boolean attribute followed by another attribute (the other two repaired, a rangeOfInteger and
a third integer, are in `sample`) -/
example : decode (encode { sample with groups := [{ tag := 1, vals := [.bools 0x22 [98] [false], .ints 0x21 [110] [5]] }] })
    = some { sample with groups := [{ tag := 1, vals := [.bools 0x22 [98] [false], .ints 0x21 [110] [5]] }] } :=
  C17_ipp_roundtrip _ (by decide)

end HT.Ipp

/- OBLIGATIONS
HT.Ipp.C17_ipp_roundtrip
HT.Ipp.C17_ipp_reply_first_group
HT.Ipp.C17_ipp_reply_echo
HT.Ipp.C17_ipp_opPart_plain
HT.Ipp.C17_ipp_jobField_last
HT.Ipp.C17_ipp_print_job_event
HT.Ipp.C17_ipp_event_data
-/

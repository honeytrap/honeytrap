import HT.Props.C03
import HT.Lemmas.Http
/-!
# C03 ∘ C04 — per-connection framing machines are isolated

After the repairs, the handlers of ftp (command log), telnet, memcached, redis, smtp and http keep
everything they know about a connection in that connection's own state: protocol state and the
bytes buffered so far (`HT.Seg.St`).  Such a service is an `HT.Iso.Svc` without any shared slot, so
the isolation theorem applies with segments as the steps: however the segments of any number of
connections interleave, each connection produces the events of its own byte stream — and by the
segmentation theorem those are the events of that stream delivered in one piece.
-/
namespace HT.Iso
open HT.Seg

variable {S E : Type}

/-- a framing machine per connection, as a service whose sessions share nothing -/
def framed (p : Proto S E) (s0 : S) : Svc Unit (St S) Bytes (List E) :=
  { step := fun slot st seg => (slot, (feed p st seg).2, (feed p st seg).1)
    init := { s := s0, buf := [] } }

theorem runSolo_framed (p : Proto S E) (s0 : S) : ∀ (segs : List Bytes) (st : St S),
    ((runSolo (framed p s0) none st segs).2).flatten = (runSegs p st segs).1 := by
  intro segs
  induction segs with
  | nil => intro st; simp [runSolo, runSegs]
  | cons seg rest ih =>
    intro st
    simp only [runSolo, runSegs, framed, List.flatten_cons]
    have := ih (feed p st seg).2
    simp only [framed] at this
    rw [this]

/-- **Interleaved connections of a framed service.** For every schedule of segments of any number of
connections, the events connection `c` produces (before its end of stream) are those of its own
segments alone — and those of its byte stream in one piece. -/
theorem framed_isolated (p : Proto S E) (hf : Framed p) (s0 : S) (c : String) (sched : List (String × Bytes)) :
    (view c (runG (framed p s0) (fun a => a) (G.init (framed p s0)) sched).2).flatten
      = (feed p { s := s0, buf := [] } (inputsOf c sched).flatten).1 := by
  rw [C03_isolation (framed p s0) (fun a => a) c sched (fun _ _ h => h)]
  exact (runSolo_framed p s0 (inputsOf c sched) { s := s0, buf := [] }).trans
    (congrArg (·.1) (runSegs_eq_feed p hf _ _ (next_nil_none hf s0)))

theorem C03_framed_isolated (p : Proto S E) (hm : ∀ s, Mono (p.next s)) (hp : ∀ s, Progress (p.next s)) (s0 : S)
    (c : String) (sched : List (String × Bytes)) :
    (view c (runG (framed p s0) (fun a => a) (G.init (framed p s0)) sched).2).flatten
      = (feed p { s := s0, buf := [] } (inputsOf c sched).flatten).1 :=
  framed_isolated p (fun s => .of_progress (hm s) (hp s)) s0 c sched

/-- smtp, and below ftp (the command log) and http: the instances the correspondence runs exercise -/
theorem C03_smtp_connections_isolated (c : String) (sched : List (String × Bytes)) :
    (view c (runG (framed Proto.smtp Proto.smtpInit) (fun a => a) (G.init (framed Proto.smtp Proto.smtpInit)) sched).2).flatten
      = (feed Proto.smtp { s := Proto.smtpInit, buf := [] } (inputsOf c sched).flatten).1 :=
  framed_isolated Proto.smtp Proto.smtp_framed Proto.smtpInit c sched

theorem C03_ftp_log_connections_isolated (c : String) (sched : List (String × Bytes)) :
    (view c (runG (framed Proto.ftp false) (fun a => a) (G.init (framed Proto.ftp false)) sched).2).flatten
      = (feed Proto.ftp { s := false, buf := [] } (inputsOf c sched).flatten).1 :=
  framed_isolated Proto.ftp Proto.ftp_framed false c sched

theorem C03_http_connections_isolated (c : String) (sched : List (String × Bytes)) :
    (view c (runG (framed Relay.httpSvc .open) (fun a => a) (G.init (framed Relay.httpSvc .open)) sched).2).flatten
      = (feed Relay.httpSvc { s := .open, buf := [] } (inputsOf c sched).flatten).1 :=
  framed_isolated Relay.httpSvc Relay.httpSvc_framed .open c sched

end HT.Iso

/- OBLIGATIONS
HT.Iso.C03_framed_isolated
HT.Iso.C03_smtp_connections_isolated
HT.Iso.C03_ftp_log_connections_isolated
HT.Iso.C03_http_connections_isolated
-/

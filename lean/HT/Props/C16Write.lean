import HT.Props.C16
import HT.Lemmas.Handoff
import HT.Gen.Facts
/-!
# C16 — the write path and the reader's wake-up

"… bytes the service writes return to the agent tagged with that connection's addresses, in
order."  `agentConnection.Write` splits a write into messages of at most `maxPayload` bytes
(`HT.Gen.agentMaxPayload`, regenerated from listener/agent/connection.go); every such message fits
the 16-bit length fields, so the agent decodes the frame stream back into exactly these messages,
and their payloads concatenate to what was written — for writes of any size.

"… the bytes of its data messages reach the service …": the session loop signals the connection's
reader without blocking; with the channel capacity the source has (`HT.Gen.agentSignalCap`) the
reader gets the bytes under every schedule (the model of `HT.Handoff`, shared with C14).
-/
namespace HT.Agent

theorem chunksAux_flatten (m f : Nat) (b : Bytes) : (chunksAux m f b).flatten = b := by
  fun_induction chunksAux m f b with
  | case1 | case2 => exact List.append_nil _
  | case3 f b _ ih => rw [List.flatten_cons, ih, List.take_append_drop]

/-- What the messages of one write carry, concatenated, is what was written. -/
theorem C16_write_chunks_in_order (m : Nat) (b : Bytes) : (chunks m b).flatten = b :=
  chunksAux_flatten m b.length b

theorem chunksAux_bound (m : Nat) (hm : 0 < m) (f : Nat) (b : Bytes) (hb : b.length ≤ f) :
    ∀ c ∈ chunksAux m f b, c.length ≤ m := by
  fun_induction chunksAux m f b with
  | case1 b => exact fun c hc => List.mem_singleton.1 hc ▸ Nat.le_trans hb (Nat.zero_le m)
  | case2 f b h => exact fun c hc => List.mem_singleton.1 hc ▸ h
  | case3 f b h ih =>
    intro c hc
    rcases List.mem_cons.1 hc with rfl | hc
    · exact List.length_take_le ..
    · exact ih (List.length_drop ▸ Nat.sub_le_of_le_add (Nat.le_trans hb (Nat.add_le_add_left hm f))) c hc

/-- No message carries more than `maxPayload` bytes. -/
theorem C16_write_chunks_bounded (m : Nat) (hm : 0 < m) (b : Bytes) : ∀ c ∈ chunks m b, c.length ≤ m :=
  chunksAux_bound m hm b.length b (Nat.le_refl _)

theorem encAddr_length (a : AAddr) : (encAddr a).length = a.ip.length + 5 := by
  simp [encAddr, encData, enc16]

theorem data_fits (l r : AAddr) (p : Bytes) (hl : l.ip.length ≤ 16) (hr : r.ip.length ≤ 16)
    (hp : p.length ≤ 65491) : (encBody (.data l r p)).length < 65536 := by
  simp only [encBody, List.length_append, encAddr_length, encData, enc16, List.length_cons, List.length_nil]
  -- (16 + 5) + (16 + 5) + (2 + 65491) = 65535
  exact Nat.lt_succ_of_le (Nat.add_le_add (Nat.add_le_add (Nat.add_le_add_right hl 5) (Nat.add_le_add_right hr 5))
    (Nat.add_le_add_left hp 2))

theorem decFrames_frames (ms : List Msg) : ∀ (fuel : Nat), ms.length ≤ fuel →
    (∀ m ∈ ms, m.wf ∧ (encBody m).length < 65536) → decFrames fuel (ms.flatMap frame) = some ms := by
  induction ms with
  | nil => intro fuel _ _; cases fuel <;> rfl
  | cons m ms ih =>
    intro fuel hf h
    rw [List.forall_mem_cons] at h
    match fuel, hf with
    | fuel + 1, hf =>
      rw [List.flatMap_cons, decFrames, if_neg (by simp [frame]), C16_frame_roundtrip m _ h.1.1 h.1.2]
      exact congrArg (Option.map (m :: ·)) (ih fuel (Nat.le_of_succ_le_succ hf) h.2)

/-- The frames of one write, of any size, decode to data messages for the connection's addresses whose payloads
are the consecutive pieces of what was written. -/
theorem C16_write_relayed_in_order (l r : AAddr) (b : Bytes) (hl : l.wf) (hr : r.wf)
    (hl16 : l.ip.length ≤ 16) (hr16 : r.ip.length ≤ 16) :
    let ms := (chunks HT.Gen.agentMaxPayload b).map (fun c => Msg.data l r c)
    decFrames ms.length (ms.flatMap frame) = some ms ∧ (chunks HT.Gen.agentMaxPayload b).flatten = b := by
  intro ms
  refine ⟨?_, C16_write_chunks_in_order _ b⟩
  apply decFrames_frames ms ms.length (Nat.le_refl _)
  intro m hm
  simp only [ms, List.mem_map] at hm
  obtain ⟨c, hc, rfl⟩ := hm
  have hc : c.length ≤ 65491 :=
    Nat.le_trans (C16_write_chunks_bounded HT.Gen.agentMaxPayload (by decide) b c hc) (by decide)
  exact ⟨⟨hl, hr, Nat.lt_of_le_of_lt hc (by decide)⟩, data_fits l r c hl16 hr16 hc⟩

/-- non-vacuity (small numbers): a 70-byte write with a 32-byte limit is three messages -/
example : ((chunks 32 (List.replicate 70 0)).map List.length) = [32, 32, 6] := by decide

end HT.Agent

namespace HT.Handoff

theorem GenC16_signal_kept : decide (HT.Gen.agentSignalCap ≥ 1) = true := by decide

/-- The reader of a virtual connection gets the bytes of a data message under every schedule of the session loop
and the reader. -/
theorem C16_handoff_delivers (sch : List Bool) :
    (finish (decide (HT.Gen.agentSignalCap ≥ 1)) (run (decide (HT.Gen.agentSignalCap ≥ 1)) sch init)).r = .fin true :=
  delivers_of_cap _ (of_decide_eq_true GenC16_signal_kept) sch

end HT.Handoff

/- OBLIGATIONS
HT.Agent.C16_write_chunks_in_order
HT.Agent.C16_write_chunks_bounded
HT.Agent.C16_write_relayed_in_order
HT.Handoff.C16_handoff_delivers
HT.Handoff.GenC16_signal_kept
-/

import HT.Lemmas.Http
/-!
# C04 — the http service (request framing shared with the http proxy of C15)
-/
namespace HT.Relay
open HT.Seg HT.Proto

/-- http: the request events (method, target, first 1024 body bytes) are the same for every
segmentation of the client's stream, pipelined or not -/
theorem C04_http_segmentation (segs segs' : List Bytes) (h : segs.flatten = segs'.flatten) :
    eventsOf httpSvc .open segs = eventsOf httpSvc .open segs' :=
  any_two_segmentations httpSvc httpSvc_framed .open segs segs' h

/-- elasticsearch, docker, eos, ethereum, cwmp (any configuration of the one-request machine): the reported request
does not depend on how the client's stream is segmented. -/
theorem C04_onerequest_segmentation (c : OneCfg) (segs segs' : List Bytes) (h : segs.flatten = segs'.flatten) :
    eventsOf (oneSvc c) .open segs = eventsOf (oneSvc c) .open segs' :=
  any_two_segmentations (oneSvc c) (oneSvc_framed c) .open segs segs' h

/-- … and at most one request is reported per connection: after the first request the machine is closed. -/
theorem C04_onerequest_closed (c : OneCfg) (b : Bytes) : (oneSvc c).next .closed b = none := rfl

end HT.Relay

/- OBLIGATIONS
HT.Relay.C04_http_segmentation
HT.Relay.C04_onerequest_segmentation
-/

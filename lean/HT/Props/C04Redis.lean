import HT.Lemmas.Proto
import HT.Lemmas.Text
/-!
# C04 — redis: exactly one event per command array, whatever the segmentation

A command is an array of bulk strings `*k\r\n$len\r\n<s>\r\n…`; the event carries the first string.
-/
namespace HT.Proto
open HT.Seg

/-- a line that carries no LF reads back as itself (one CR before the LF is part of the terminator) -/
theorem scanLine_render (c rest : Bytes) (h : lf ∉ c) :
    scanLine (c ++ cr :: lf :: rest) = some (c, rest) := by
  simp [scanLine, bindP, line_crlf c rest h, pureP, stripEOL_crlf]

def bulkBytes (s : Bytes) : Bytes := [36] ++ natDigits s.length ++ [cr, lf] ++ s ++ [cr, lf]

/-- a command: the verb and its arguments, all sent as bulk strings -/
structure RCmd where
  verb : Bytes
  args : List Bytes

def RCmd.bytes (c : RCmd) : Bytes :=
  [42] ++ natDigits (c.args.length + 1) ++ [cr, lf] ++ bulkBytes c.verb ++ c.args.flatMap bulkBytes

/-- strings a bulk line can carry: anything without LF (the parser ignores the announced length and reads a line) -/
def okStr (s : Bytes) : Prop := lf ∉ s ∧ s.length < 2 ^ 64

def RCmd.ok (c : RCmd) : Prop := okStr c.verb ∧ (∀ a ∈ c.args, okStr a) ∧ c.args.length + 1 < 2 ^ 64

theorem rItem_typed (levels : Nat) (t : UInt8) (ht : t ≠ lf) (n : Nat) (rest : Bytes) :
    rItem (levels + 1) (t :: natDigits n ++ cr :: lf :: rest)
      = rAfter (rItemsWith (rItem levels)) (t :: natDigits n) rest := by
  have hd : lf ∉ t :: natDigits n := by simp [Ne.symm ht, natDigits_no_lf]
  simp only [rItem, bindP, scanLine_render _ rest hd]

theorem rItem_bulk (levels : Nat) (s rest : Bytes) (h : okStr s) :
    rItem (levels + 1) (bulkBytes s ++ rest) = some (some (.bulk s), rest) := by
  have e : bulkBytes s ++ rest = 36 :: natDigits s.length ++ cr :: lf :: (s ++ cr :: lf :: rest) := by
    simp [bulkBytes]
  rw [e, rItem_typed levels 36 (by decide)]
  simp [rAfter, parseUint_natDigits _ h.2, bindP, scanLine_render s rest h.1, pureP]

theorem rItems_bulks (levels : Nat) (args : List Bytes) (h : ∀ a ∈ args, okStr a) (rest : Bytes) :
    rItemsWith (rItem (levels + 1)) args.length (args.flatMap bulkBytes ++ rest)
      = some (some (.arr (args.map .bulk)), rest) := by
  induction args with
  | nil => rfl
  | cons a as ih =>
    simp only [List.length_cons, List.flatMap_cons, List.append_assoc, rItemsWith, bindP,
      rItem_bulk levels a _ (h a List.mem_cons_self), ih fun x hx => h x (List.mem_cons_of_mem _ hx)]
    rfl

def redisEv (c : RCmd) : Ev := { kind := "redis", fields := [c.verb] }

theorem redis_cmd (c : RCmd) (h : c.ok) (rest : Bytes) : Steps redis false (c.bytes ++ rest) [redisEv c] false rest := by
  refine .one ?_
  have e : c.bytes ++ rest
      = 42 :: natDigits (c.args.length + 1) ++ cr :: lf :: ((c.verb :: c.args).flatMap bulkBytes ++ rest) := by
    simp [RCmd.bytes]
  have hr : rItem redisLevels (c.bytes ++ rest) = some (some (.arr ((c.verb :: c.args).map .bulk)), rest) := by
    rw [e, redisLevels, rItem_typed 32 42 (by decide)]
    simp only [rAfter, beq_self_eq_true, if_true, parseUint_natDigits _ h.2.2]
    exact rItems_bulks 31 (c.verb :: c.args) (List.forall_mem_cons.mpr ⟨h.1, h.2.1⟩) rest
  simp only [redis, redisNext, bindP, hr]
  rfl

/-- redis: any sequence of commands (each an array of bulk strings of any length and content without LF),
pipelined or not, in any segmentation: exactly one event per command, in order, carrying its verb. -/
theorem C04_redis_exactly_once (cs : List RCmd) (h : ∀ c ∈ cs, c.ok)
    (segs : List Bytes) (hs : segs.flatten = cs.flatMap RCmd.bytes) :
    eventsOf redis false segs = cs.map redisEv := by
  have := eventsOf_eq_of_steps_all redis redis_framed
    (Steps.map RCmd.bytes redisEv false cs (fun c hc => redis_cmd c (h c hc)) []) segs (by simpa using hs)
  have ht : redisTail 1 [] = [] := by
    simp [redisTail, rItemE, redisLevels, scanLineE, scanLine, bindP, line, lineAux]
  simpa [redis, redisFinish, ht] using this

example : natDigits 0 = [48] ∧ natDigits 1024 = [49, 48, 50, 52] := by decide

end HT.Proto

/- OBLIGATIONS
HT.Proto.C04_redis_exactly_once
HT.Proto.digitsVal_natDigits
-/

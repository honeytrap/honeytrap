import HT.Lemmas.Tcp
import HT.Lemmas.Checksum
/-!
# C14 — raw-listener TCP handshake, acks and checksums hold for all sequence numbers

For any client initial sequence number, port pair and in-order segmentation of the
client's data, the raw listener answers a SYN with a SYN-ACK acknowledging ISN+1,
becomes established on the client's ACK, acknowledges exactly the bytes received so
far (modulo 2^32), answers a FIN […].  Every frame it emits is addressed back to the
sender with correct IPv4 header and TCP checksums, and simultaneous connections
from different peers or ports do not disturb each other.

Sequence numbers are `UInt32`; every statement below is for *all* 2^32 values.
The event/payload clause rests on the hand-off of the pushed bytes to the handler goroutine:
`C14_handoff_delivers` (`HT.Props.C14Handoff`) proves that hand-off for every schedule of the two
goroutines.  No theorem speaks of the payload of the event itself; that is left to the
correspondence run and its oracle (see DESIGN.md).
-/
namespace HT.Can
open HT.Pkt

/-- SYN → SYN-ACK acknowledging ISN+1, sent from the state whose SND.NXT is ISS+1; the
connection moves to SYN-RECEIVED with SND.UNA = ISS and SND.NXT = ISS+2. -/
theorem C14_synack (cfg : Cfg) (s : TCB) (now : Nat) (h : Tcp)
    (hst : s.st = .listen) (hsyn : hasFlag h.ctrl SYN = true) :
    let s1 : TCB := { s with t := now, una := s.iss, nxt := s.iss + 1, rcv := UInt32.ofNat h.seq + 1 }
    (segStep cfg s now h).s = { s1 with id := s.id + 1, nxt := s.iss + 2, st := .synRcvd } ∧
    (segStep cfg s now h).eff = (send cfg s1 (SYN + ACK) []).2 := by
  have e : s.iss + 1 + 1 = s.iss + 2 := UInt32.add_assoc ..
  rw [segStep, if_pos ⟨hst, hsyn⟩, ← e]
  exact ⟨rfl, rfl⟩

/-- The client's ACK of the SYN-ACK (ack = ISS+2 = SND.NXT) establishes the connection for
**every** server ISS — including 2^32−2 and 2^32−1, where SND.NXT wraps below SND.UNA. -/
theorem C14_established_on_ack (cfg : Cfg) (s : TCB) (now : Nat) (h : Tcp)
    (hst : s.st = .synRcvd) (hd : IsData h) (hack : UInt32.ofNat h.ack = s.nxt) :
    (segStep cfg s now h).s.st = .estab ∧ (segStep cfg s now h).s.hdl = .waiting := by
  rw [(seg_text hd (ackStage_synRcvd { s with t := now } hst (hack ▸ ackOk_self ..)) rfl).1]
  exact ⟨rfl, rfl⟩

/-- Record of the defect repaired by a `fix:` commit: the comparison as it was
(`SND.UNA ≤ SEG.ACK ≤ SND.NXT` on plain 32-bit values) rejects the correct ACK when the
ISS is 2^32−2. -/
theorem C14_counterexample_iss_wrap :
    let iss : UInt32 := 0xFFFFFFFE
    (decide (iss ≤ iss + 2) && decide (iss + 2 ≤ iss + 2)) = false := by decide

/-- Each in-order data segment is acknowledged with exactly RCV.NXT + its length (mod 2^32),
in a frame built from the connection's own addresses and ports. -/
theorem C14_ack_exact (cfg : Cfg) (s : TCB) (now : Nat) (h : Tcp)
    (hst : s.st = .estab) (hd : IsData h) (hp : 0 < h.payload.length) :
    ∃ s1 : TCB, s1.rcv = s.rcv + UInt32.ofNat h.payload.length ∧ s1.nxt = s.nxt ∧
      s1.srcIP = s.srcIP ∧ s1.dstIP = s.dstIP ∧ s1.srcPort = s.srcPort ∧ s1.dstPort = s.dstPort ∧
      (segStep cfg s now h).eff = (send cfg s1 ACK []).2 := by
  rw [(seg_text hd (ackStage_estab { s with t := now } hst) hst).2, if_pos hp]
  refine ⟨_, ?_, ?_, ?_, ?_, ?_, ?_, rfl⟩ <;> rfl

/-- After any list of in-order data segments (any lengths, any count) the connection is still
established and RCV.NXT = start + Σ lengths modulo 2^32. -/
theorem C14_acks_exact_run (cfg : Cfg) (now : Nat) (s : TCB) (hs : List Tcp)
    (hst : s.st = .estab) (hall : ∀ h ∈ hs, IsData h) :
    (dataRun cfg now s hs).st = .estab ∧
    (dataRun cfg now s hs).rcv = s.rcv + UInt32.ofNat (totalLen hs) := by
  induction hs generalizing s with
  | nil => exact ⟨hst, (UInt32.add_zero _).symm⟩
  | cons h hs ih =>
    have hd := seg_data cfg now hst (hall h (.head _))
    have := ih (segStep cfg s now h).s hd.1 fun x hx => hall x (.tail _ hx)
    refine ⟨this.1, this.2.trans ?_⟩
    rw [hd.2, totalLen, UInt32.ofNat_add, UInt32.add_assoc]

/-- A FIN, with or without data, is answered by a FIN|ACK acknowledging seq + len + 1. -/
theorem C14_fin_answered (cfg : Cfg) (s : TCB) (now : Nat) (h : Tcp)
    (hst : s.st = .estab) (hack : hasFlag h.ctrl ACK = true) (hsyn : hasFlag h.ctrl SYN = false)
    (hrst : hasFlag h.ctrl RST = false) (hfin : hasFlag h.ctrl FIN = true) :
    ∃ (s1 : TCB) (e1 : List Eff),
      s1.rcv = UInt32.ofNat h.seq + UInt32.ofNat h.payload.length + 1 ∧ s1.nxt = s.nxt ∧
      s1.srcIP = s.srcIP ∧ s1.dstIP = s.dstIP ∧ s1.srcPort = s.srcPort ∧ s1.dstPort = s.dstPort ∧
      (segStep cfg s now h).eff = e1 ++ (send cfg s1 (FIN + ACK) []).2 := by
  rw [(seg_fin hack hsyn hrst hfin (ackStage_estab { s with t := now } hst) hst).2, textStage_keeps]
  refine ⟨_, _, ?_, ?_, ?_, ?_, ?_, ?_, rfl⟩ <;> rfl

/-- Every packet `send` emits carries a valid IPv4 header checksum … -/
theorem C14_ip_checksum_valid (s : TCB) (n : Nat) :
    fold16 (words (setAt (ipHdr s n) 10 (u16be (cksum (words (ipHdr s n)))))) = 65535 :=
  ip_checksum_valid s n

/-- … and a valid TCP checksum over pseudo header, header and payload of any length/parity. -/
theorem C14_tcp_checksum_valid (s : TCB) (flags : Nat) (payload : Bytes) :
    let seg := tcpHdr s flags ++ payload
    let pseudo := words s.dstIP + words s.srcIP + 6 + seg.length
    fold16 (pseudo + words (setAt seg 16 (u16be (cksum (pseudo + words seg))))) = 65535 :=
  tcp_checksum_valid s flags payload

/-- The state a segment is attributed to has exactly the segment's 4-tuple (either direction). -/
theorem C14_lookup_exact (slots : List (Option TCB)) (a b : Bytes) (sp dp : Nat) (i : Nat)
    (h : getIdx slots a b sp dp = some i) :
    ∃ s, slots[i]? = some (some s) ∧ tupleMatch s a b sp dp = true := by
  obtain ⟨hi, hp, -⟩ := List.findIdx?_eq_some_iff_getElem.1 h
  rw [List.getElem?_eq_getElem hi]
  generalize slots[i] = o at hp ⊢
  cases o with
  | none => cases hp
  | some s => exact ⟨s, rfl, hp⟩

/-- Record of the defect repaired by a `fix:` commit: per-field matching attributed a
segment of P:80→S:1000 to the state of P:1000→S:80. -/
theorem C14_counterexample_lookup_port_swap :
    let sSrcPort := 1000; let sDstPort := 80; let segSp := 80; let segDp := 1000
    (¬ (sSrcPort ≠ segSp ∧ sDstPort ≠ segSp) ∧ ¬ (sDstPort ≠ segDp ∧ sSrcPort ≠ segDp)) ∧
    ¬ (sSrcPort = segSp ∧ sDstPort = segDp) := by decide

/-- Simultaneous connections do not disturb each other: a segment that does not open a
connection changes no slot other than the one its 4-tuple resolves to. -/
theorem C14_connections_independent (cfg : Cfg) (st st' : St) (now : Nat) (src dst data : Bytes)
    (d : Drawn) (eff : List Eff) (h : Tcp) (perr : Bool)
    (hp : tcpParse data = .ok (h, perr))
    (hns : ¬ (hasFlag h.ctrl SYN = true ∧ ¬ hasFlag h.ctrl ACK = true))
    (hr : handleTCP cfg st now src dst data d = .ok (st', eff)) :
    st'.slots.length = st.slots.length ∧
    ∀ j, getIdx st.slots src dst h.sport h.dport ≠ some j → st'.slots[j]? = st.slots[j]? := by
  obtain ⟨r, e, hr'⟩ := handleTCP_lookup cfg st now src dst d hp hns
  rw [e] at hr
  cases hr
  rcases hr' with e | ⟨i, s, hi, -, e⟩ <;> cases e
  · exact ⟨rfl, fun _ _ => rfl⟩
  · exact ⟨List.length_set, fun j hj => List.getElem?_set_ne fun e : i = j => hj (e ▸ hi)⟩

/-- non-vacuity: a concrete SYN / ACK / data / FIN exchange with ISS = 2^32−1 runs through
the states the theorems speak about. -/
example :
    let cfg : Cfg := { myIPs := [[127,0,0,1]], arp := [[10,0,0,1]] }
    let s0 := newTCB [10,0,0,1] 1000 [127,0,0,1] 8080 { iss := 0xFFFFFFFF, id := 7 } 0
    let seg (seq ack ctrl : Nat) (p : Bytes) : Tcp :=
      { sport := 1000, dport := 8080, seq := seq, ack := ack, dataOff := 5, ecn := 0, ctrl := ctrl,
        window := 0, checksum := 0, urgent := 0, options := [], padding := [], payload := p }
    let s1 := (segStep cfg s0 0 (seg 4294967295 0 2 [])).s
    let s2 := (segStep cfg s1 0 (seg 0 1 16 [])).s
    let s3 := (segStep cfg s2 0 (seg 0 1 16 [1, 2, 3])).s
    let s4 := (segStep cfg s3 0 (seg 3 1 17 [4])).s
    (s1.st, s1.rcv, s2.st, s3.rcv, s4.st, s4.rcv) = (.synRcvd, 0, .estab, 3, .closeWait, 5) := by decide

end HT.Can

/- OBLIGATIONS
HT.Can.C14_synack
HT.Can.C14_established_on_ack
HT.Can.C14_counterexample_iss_wrap
HT.Can.C14_ack_exact
HT.Can.C14_acks_exact_run
HT.Can.C14_fin_answered
HT.Can.C14_ip_checksum_valid
HT.Can.C14_tcp_checksum_valid
HT.Can.C14_lookup_exact
HT.Can.C14_counterexample_lookup_port_swap
HT.Can.C14_connections_independent
-/

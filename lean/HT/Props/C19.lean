import HT.Lemmas.Server
/-!
# C19 — exactly the well-formed port entries that name a service are listened on

For any configuration, the listener is asked to listen on exactly those port entries
that parse as protocol/port or protocol/host:port with protocol tcp or udp and a port
in 0..65535 and that name at least one defined service; when two entries denote the
same protocol and port with compatible addresses, the first wins and later ones are
ignored; unknown service names are skipped without affecting the others.  A connection
to a listened port can reach only the services listed for that entry.
-/
namespace HT.Srv

/-- The port parser accepts exactly the non-empty strings of decimal digits whose value is at most
65535 — for every string, not only the 65 536 canonical numerals. -/
theorem C19_port_parse (s : List Char) (n : Nat) :
    parsePort s = some n ↔
      s ≠ [] ∧ s.all Char.isDigit = true ∧ digitsValue s = n ∧ n ≤ 65535 := by
  fun_cases parsePort s
  next h => exact ⟨nofun, fun h' => absurd (List.isEmpty_iff.mp h) h'.1⟩  -- empty
  next h hd hv =>  -- in range
    have hne : s ≠ [] := fun e => h (List.isEmpty_iff.mpr e)
    exact ⟨fun e => by cases e; exact ⟨hne, hd, rfl, hv⟩, fun h' => by rw [h'.2.2.1]⟩
  next hv => exact ⟨nofun, fun h' => absurd (h'.2.2.1 ▸ h'.2.2.2) hv⟩  -- too large
  next hd => exact ⟨nofun, fun h' => absurd h'.2.1 hd⟩  -- a non-digit

/-- One port string of one entry adds at most one row, only if it parses, names at least one
defined service (unknown names dropped, the others kept in order) and no earlier row is
for a compatible address; otherwise the table is unchanged. -/
theorem C19_listened_exact_step (defined services : List String) (t : Table) (ps : String) :
    ∃ l, addPort defined services t ps = t ++ l ∧ l.length ≤ 1 ∧
      ∀ kv ∈ l, toAddr ps = .ok kv.1 ∧ kv.2 = services.filter (fun s => defined.contains s) ∧ kv.2 ≠ [] ∧
        t.any (fun x => compareAddr x.1 kv.1) = false := by
  rcases addPort_eq defined services t ps with h | ⟨a, ha, hne, hc, h⟩
  · exact ⟨[], h.trans (List.append_nil t).symm, Nat.zero_le 1, fun _ h => absurd h List.not_mem_nil⟩
  · refine ⟨_, h, Nat.le_refl 1, fun kv hkv => ?_⟩
    cases List.mem_singleton.mp hkv
    exact ⟨ha, rfl, hne, hc⟩

/-- The first entry wins: processing further entries only appends rows; no row is ever changed
or removed. -/
theorem C19_first_wins (defined : List String) (es1 es2 : List PortEntry) :
    ∃ l, buildTable defined (es1 ++ es2) = buildTable defined es1 ++ l := by
  unfold buildTable
  rw [List.foldl_append]
  exact foldl_addEntry_induct defined (P := fun t => ∃ l, t = _ ++ l)
    (fun _ a svcs h _ _ _ => h.elim fun l hl => ⟨l ++ [(a, svcs)], by rw [hl, List.append_assoc]⟩) es2
    ⟨[], (List.append_nil _).symm⟩

/-- No two listened entries denote the same protocol and port with compatible addresses. -/
theorem C19_no_duplicates (defined : List String) (es : List PortEntry) :
    Incomparable (buildTable defined es) :=
  foldl_addEntry_induct defined (P := Incomparable)
    (fun t a svcs ht _ _ hc => List.pairwise_append.mpr
      ⟨ht, List.pairwise_singleton _ _, fun x hx y hy => by
        rw [List.mem_singleton.mp hy]; exact Bool.eq_false_iff.mpr (List.any_eq_false.mp hc x hx)⟩)
    es List.Pairwise.nil

/-- Unknown service names are skipped: every row names defined services only, at least one. -/
theorem C19_unknown_skipped (defined : List String) (es : List PortEntry) :
    ∀ kv ∈ buildTable defined es, kv.2 ≠ [] ∧ ∀ s ∈ kv.2, s ∈ defined :=
  foldl_addEntry_induct defined (P := fun t => ∀ kv ∈ t, kv.2 ≠ [] ∧ ∀ s ∈ kv.2, s ∈ defined)
    (fun t a svcs ht hne hd _ kv hkv => (List.mem_append.mp hkv).elim (ht kv)
      fun h => by cases List.mem_singleton.mp h; exact ⟨hne, hd⟩)
    es fun _ h => absurd h List.not_mem_nil

/-- A connection to a listened port can reach only the services listed for that entry. -/
theorem C19_reach_only_listed (cs : List Svc) (peek : Option Bytes) (r : Svc × Via)
    (h : findService cs peek = some r) : r.1 ∈ cs :=
  findService_mem cs peek r h

/-- non-vacuity / boundary cases of the port parser and the host:port splitter -/
example : (parsePort ['0', '8', '0'], parsePort ['6', '5', '5', '3', '5'], parsePort ['6', '5', '5', '3', '6'],
           parsePort ['+', '8', '0'], parsePort []) = (some 80, some 65535, none, none, none) := by decide

example : splitHostPort ['1', '.', '2', ':', '8', '0'] = some (['1', '.', '2'], ['8', '0']) ∧
    splitHostPort ['8', '0'] = none ∧ splitHostPort [':', ':', '1', ':', '8', '0'] = none ∧
    splitHostPort ['[', ':', ':', '1', ']', ':', '8'] = some ([':', ':', '1'], ['8']) := by
  decide

end HT.Srv

/- OBLIGATIONS
HT.Srv.C19_port_parse
HT.Srv.C19_listened_exact_step
HT.Srv.C19_first_wins
HT.Srv.C19_no_duplicates
HT.Srv.C19_unknown_skipped
HT.Srv.C19_reach_only_listed
-/

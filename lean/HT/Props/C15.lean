import HT.Lemmas.Http
/-!
# C15 — proxy services relay requests and replies unchanged to the configured backend

Statement (properties.jsonl): every client request reaches the configured backend with the same
content and every backend reply reaches the client unchanged and in order, whatever the
segmentation; each relayed request is recorded; the proxy opens connections to no address other
than the configured backend.

Proved here: the stream relay writes exactly the concatenation of what it read, for every
segmentation; the forward director's target is a function of the configuration and the
connection's own port only (host never anything but the configured one) — and the stateful variant
is not; the http proxy's request framing is a monotone machine, so which requests are relayed, and
in which order, does not depend on segmentation or pipelining.  That the re-serialised request and
the reply carry the same content is decided by the backend fixtures of the check.
-/
namespace HT.Relay
open HT.Seg HT.Proto

/-- the backend receives exactly the bytes the client sent, in order, nothing lost or repeated -/
theorem C15_copy_exact (segs : List Bytes) : copyRelay segs = segs.flatten := by
  rw [copyRelay, show copyStep = (· ++ id ·) from rfl, List.foldl_append_eq_append, List.map_id, List.nil_append]

theorem C15_copy_any_segmentation (a b : List Bytes) (h : a.flatten = b.flatten) : copyRelay a = copyRelay b := by
  rw [C15_copy_exact, C15_copy_exact, h]

/-- the host dialled is the configured one — the part before the port when the configuration carries a port —
for every connection; the port is the configured one, or else the connection's own -/
theorem C15_dial_target (cfg : List Char) (port : Nat) :
    dialTarget cfg port =
      match Srv.splitHostPort cfg with
      | some (h, p) => (h, p)
      | none => (cfg, (toString port).toList) := rfl

/-- with a port in the configuration every connection is sent to the same address -/
theorem C15_dial_fixed (cfg h p : List Char) (hc : Srv.splitHostPort cfg = some (h, p)) (port port' : Nat) :
    dialTarget cfg port = dialTarget cfg port' := by
  simp [dialTarget, hc]

/-- the shape of a director that remembers its first target: the second connection, on another port,
is sent to the first one's port -/
theorem C15_counterexample_cached_target :
    let cfg := "127.0.0.2".toList
    let r1 := dialCached cfg none 8081
    let r2 := dialCached cfg r1.2 8082
    r2.1 ≠ dialTarget cfg 8082 := by decide

/-- which requests the proxy relays, and in which order, is the same for every segmentation of the
client's byte stream — pipelined in one write or a byte at a time -/
theorem C15_http_requests_any_segmentation (segs segs' : List Bytes) (h : segs.flatten = segs'.flatten) :
    eventsOf httpProxy .open segs = eventsOf httpProxy .open segs' :=
  any_two_segmentations httpProxy httpProxy_framed .open segs segs' h

/-! non-vacuity: two pipelined requests, the first with a body, cut inside the body -/
example : eventsOf httpProxy .open
    [[80, 79, 83, 84, 32, 47, 97, 32, 72, 13, 10, 67, 111, 110, 116, 101, 110, 116, 45, 76, 101, 110, 103, 116, 104, 58, 32, 50, 13, 10, 13, 10, 120],
     [121, 71, 69, 84, 32, 47, 98, 32, 72, 13, 10, 13, 10]]
    = [{ method := [80, 79, 83, 84], target := [47, 97], body := [120, 121] }, { method := [71, 69, 84], target := [47, 98], body := [] }] := by
  decide

end HT.Relay

/- OBLIGATIONS
HT.Relay.C15_copy_exact
HT.Relay.C15_copy_any_segmentation
HT.Relay.C15_dial_target
HT.Relay.C15_dial_fixed
HT.Relay.C15_counterexample_cached_target
HT.Relay.C15_http_requests_any_segmentation
-/

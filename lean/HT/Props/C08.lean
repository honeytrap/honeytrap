import HT.Lemmas.Server
/-!
# C08 — connections go to the first configured service that accepts them, stream intact

A connection to a configured port is handed to exactly one service: the port's only
service, or else the first service in configured order that either has no payload
detector or whose detector accepts the first bytes the client sent; ports match on
protocol, port number and, when one is configured, address.  The chosen service reads
the client's byte stream complete and in order from its first byte — including the
bytes inspected for detection — and connections that match no port or no detector are
closed without any service seeing them.

"The first bytes the client sent" are the bytes of the first read (at most 1024), which
is what the detectors are shown.
-/
namespace HT.Srv

/-- The port's only service gets the connection, whatever it sends. -/
theorem C08_single_service (s : Svc) (peek : Option Bytes) : findService [s] peek = some (s, .raw) := rfl

/-- With several services: the first one that has no detector or whose detector accepts the
peeked bytes — and no service if none does. -/
theorem C08_chosen_is_first_acceptor (a b : Svc) (rest : List Svc) (p : Bytes) :
    (findService (a :: b :: rest) (some p)).map (·.1) = firstAcceptor p (a :: b :: rest) :=
  scan_first_acceptor p _ false

/-- The chosen service is always one of the services configured for that port. -/
theorem C08_chosen_is_configured (cs : List Svc) (peek : Option Bytes) (r : Svc × Via)
    (h : findService cs peek = some r) : r.1 ∈ cs :=
  findService_mem cs peek r h

/-- No port entry matches → no service sees the connection. -/
theorem C08_no_port_closed (peek : Option Bytes) : findService [] peek = none := rfl

/-- The chosen service reads the client's bytes complete and in order from the first byte, for
every segmentation, whether or not bytes were taken off the connection for detection. -/
theorem C08_stream_intact (segs : List Bytes) (via : Via) : serviceView segs via = segs.flatten := by
  cases via with
  | raw => rfl
  | peeked =>
    unfold serviceView
    cases h : firstRead segs with
    | none => rfl
    | some b =>
      obtain ⟨t, ht⟩ := firstRead_prefix h
      simp only [← ht, List.drop_left]

/-- At most one configured port entry matches a concrete local address (so the choice of the
entry does not depend on map iteration order). -/
theorem C08_unique_candidates (t : Table) (h : Incomparable t) (l : Addr) (hl : l.ip ≠ none)
    (i j : Nat) (hi : i < t.length) (hj : j < t.length) (hij : i < j)
    (h1 : compareAddr t[i].1 l = true) (h2 : compareAddr t[j].1 l = true) : False := by
  have hc := compareAddr_of_common_match t[i].1 t[j].1 l hl h1 h2
  have := List.pairwise_iff_getElem.mp h i j hi hj hij
  rw [this] at hc; cases hc

/-- Record of the defect repaired by a `fix:` commit: after a detector-bearing service rejected,
a following detector-less service was given the raw connection, from which the peeked bytes
were already gone. -/
theorem C08_counterexample_peeked_bytes_lost :
    let segs : List Bytes := [[1, 2, 3], [4]]
    -- what the raw connection still holds after the peek
    segs.flatten.drop ((firstRead segs).getD []).length ≠ segs.flatten := by decide

/-- non-vacuity: the first read decides; `G` alone is rejected by `get`, so `plain` gets the
connection through the peek wrapper, while `GET ` goes to `get` -/
example :
    let get : Svc := ⟨"get", some [71, 69, 84]⟩
    let plain : Svc := ⟨"plain", none⟩
    (findService [get, plain] (firstRead [[71], [69, 84]]), findService [get, plain] (firstRead [[71, 69, 84, 32]])) =
      (some (plain, .peeked), some (get, .peeked)) := by decide

end HT.Srv

/- OBLIGATIONS
HT.Srv.C08_single_service
HT.Srv.C08_chosen_is_first_acceptor
HT.Srv.C08_chosen_is_configured
HT.Srv.C08_no_port_closed
HT.Srv.C08_stream_intact
HT.Srv.C08_unique_candidates
HT.Srv.C08_counterexample_peeked_bytes_lost
-/

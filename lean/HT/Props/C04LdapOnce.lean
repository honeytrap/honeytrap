import HT.Props.C04Ldap
import HT.Lemmas.Radix
/-!
# C04 — ldap: exactly one report per LDAPMessage

Any sequence of LDAPMessages (message id 0..255; any protocol operation whose tag is in the low-tag-number form,
except the unbind request; operation contents up to 60000 bytes, lengths in the short and in the long BER form),
pipelined or not, in any segmentation: one report per message, in order, with its id and request type.
-/
namespace HT.Ldap
open HT.Seg HT.Proto

/-- definite BER length: short form below 128, else the long form with one or two length bytes -/
def encLen (n : Nat) : Bytes :=
  if n < 128 then [UInt8.ofNat n]
  else if n < 256 then [0x81, UInt8.ofNat n]
  else [0x82, UInt8.ofNat (n / 256), UInt8.ofNat (n % 256)]

def encTLV (t : UInt8) (v : Bytes) : Bytes := t :: (encLen v.length ++ v)

theorem headOf_short (t l : UInt8) (rest : Bytes) (ht : t.toNat % 32 ≠ 31) (hl : l.toNat < 128) :
    headOf t l rest = some (some (t, l.toNat), rest) := by
  simp [headOf, ht, hl]

theorem headOf_long (t l : UInt8) (bs rest : Bytes) (ht : t.toNat % 32 ≠ 31) (hl : l.toNat = 128 + bs.length)
    (h1 : 0 < bs.length) (h4 : bs.length ≤ 4) : headOf t l (bs ++ rest) = some (some (t, beNat bs), rest) := by
  have := (takeN_eq_some (l.toNat - 128) (bs ++ rest) bs rest).mpr ⟨by omega, rfl⟩
  rw [headOf_eq, if_neg ht, if_neg (by omega), if_neg (by omega), bindP, this]
  rfl

theorem berHead_enc (t : UInt8) (v rest : Bytes) (ht : t.toNat % 32 ≠ 31) (hv : v.length < 65536) :
    berHead (encTLV t v ++ rest) = some (some (t, v.length), v ++ rest) := by
  have hb : ∀ l bs, berHead (t :: (l :: bs ++ v) ++ rest) = headOf t l (bs ++ (v ++ rest)) := fun l bs => by
    simp [berHead]
  unfold encTLV encLen
  by_cases h1 : v.length < 128
  · rw [if_pos h1, hb _ [], List.nil_append, headOf_short t _ _ ht (by rw [UInt8.toNat_ofNat']; omega), UInt8.toNat_ofNat',
      Nat.mod_eq_of_lt (by omega)]
  · by_cases h2 : v.length < 256
    · rw [if_neg h1, if_pos h2, hb, headOf_long t 0x81 _ _ ht rfl (by simp) (by simp)]
      simp [beNat, UInt8.toNat_ofNat']; omega
    · rw [if_neg h1, if_neg h2, hb, headOf_long t 0x82 _ _ ht rfl (by simp) (by simp)]
      simpa [beNat] using Radix.be16 hv

theorem tlv_enc (t : UInt8) (v rest : Bytes) (ht : t.toNat % 32 ≠ 31) (hv : v.length < 65536) :
    tlv (encTLV t v ++ rest) = some (t, v, rest) := by
  simp [tlv, berHead_enc t v rest ht hv]

theorem berPacket_enc (t : UInt8) (v rest : Bytes) (ht : t.toNat % 32 ≠ 31) (hv : v.length < 65536) :
    berPacket (encTLV t v ++ rest) = some (some (t, v), rest) := by
  simp only [berPacket, bindP, berHead_enc t v rest ht hv]
  cases v with
  | nil => rfl
  | cons a as =>
    have := (takeN_eq_some (as.length + 1) (a :: as ++ rest) (a :: as) rest).mpr ⟨rfl, rfl⟩
    simp only [List.length_cons, bindP, this, pureP]

/-- one LDAPMessage: id, the operation's tag and contents -/
structure LMsg where
  id : UInt8
  op : UInt8
  body : Bytes

def LMsg.ok (m : LMsg) : Prop := m.op.toNat % 32 ≠ 31 ∧ m.op ≠ 0x42 ∧ m.body.length < 60000

def LMsg.inner (m : LMsg) : Bytes := encTLV 0x02 [m.id] ++ encTLV m.op m.body

def LMsg.bytes (m : LMsg) : Bytes := encTLV 0x30 m.inner

def LMsg.ev (m : LMsg) : Ev := { kind := "ldap", fields := [natDec m.id.toNat, reqType m.op] }

theorem encLen_len (n : Nat) : (encLen n).length ≤ 3 := by
  unfold encLen; split <;> (try split) <;> simp

theorem inner_len (m : LMsg) (h : m.ok) : m.inner.length < 65536 := by
  have h1 := encLen_len m.body.length
  have h3 := h.2.2
  simp only [LMsg.inner, encTLV, List.length_append, List.length_cons, List.length_nil,
    show encLen 1 = [1] by decide]
  omega

theorem onPacket_msg (m : LMsg) (h : m.ok) : onPacket 0x30 m.inner = ([m.ev], true) := by
  have h2 := tlv_enc m.op m.body [] h.1 (by have := h.2.2; omega)
  rw [List.append_nil] at h2
  simp only [onPacket, LMsg.inner, tlv_enc 0x02 [m.id] (encTLV m.op m.body) (by decide) (by simp), h2]
  split
  · exact absurd rfl ‹_›
  · split
    · rename_i heq
      simp only [Option.some.injEq, Prod.mk.injEq] at heq
      exact absurd heq.1 h.2.1
    · rename_i heq
      simp only [Option.some.injEq, Prod.mk.injEq] at heq
      obtain ⟨rfl, _, _⟩ := heq
      simp [LMsg.ev, beNat]
    · rename_i heq; simp at heq

theorem ldap_msg (m : LMsg) (h : m.ok) (rest : Bytes) : Steps ldap true (m.bytes ++ rest) [m.ev] true rest := by
  refine .one ?_
  simp only [ldap, ldapNext, bindP, LMsg.bytes, berPacket_enc 0x30 m.inner rest (by decide) (inner_len m h), pureP,
    onPacket_msg m h]

/-- ldap: any sequence of messages, pipelined or not, in any segmentation: exactly one report per message, in order. -/
theorem C04_ldap_exactly_once (ms : List LMsg) (h : ∀ m ∈ ms, m.ok)
    (segs : List Bytes) (hs : segs.flatten = ms.flatMap LMsg.bytes) :
    eventsOf ldap true segs = ms.map LMsg.ev := by
  have := eventsOf_eq_of_steps_all ldap ldap_framed
    (Steps.map LMsg.bytes LMsg.ev true ms (fun m hm => ldap_msg m (h m hm)) []) segs (by simpa using hs)
  simpa [ldap] using this

/-- the hypotheses are satisfiable: a delete request with a 200-byte name (long-form length) -/
example : (LMsg.ok { id := 7, op := 0x4a, body := List.replicate 200 110 }) := by
  refine ⟨by decide, by decide, ?_⟩
  show (List.replicate 200 (110 : UInt8)).length < 60000
  rw [List.length_replicate]
  omega

end HT.Ldap

/- OBLIGATIONS
HT.Ldap.C04_ldap_exactly_once
-/

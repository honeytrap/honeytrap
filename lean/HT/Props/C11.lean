import HT.Lemmas.Path
/-!
# C11 — FTP clients cannot reach outside the service's filesystem root

For every sequence of FTP commands with arbitrary path arguments — relative, absolute, with
dot-dot components, repeated or trailing separators, after any directory changes — every file
or directory that is read, listed, created, renamed or deleted lies inside the FTP service's
filesystem root, and the working directory reported to the client never denotes a location
outside it.

Containment is lexical (the root is assumed free of symlinks leaving it).  Every driver
operation passes its path argument through `RealPath` (checked on the real service by the
correspondence run against a sentinel tree beside the root).  The theorems are stated on
component lists — what `strings.Split(path, "/")` yields.  The string functions of `HT.Path`
(`clean`, `realPath`, `changeDir`) are what the correspondence run compares with Go; no lemma ties
them to the component level.
-/
namespace HT.Path

instance (c : String) : Decidable (plain c) := by unfold plain; exact inferInstance

/-- Cleaning a rooted path leaves no empty, "." or ".." component: a cleaned absolute path cannot
climb. -/
theorem C11_clean_rooted_no_dotdot (comps : List String) : ∀ c ∈ cleanComps true comps, plain c :=
  fun c hc => List.foldlRecOn (motive := fun out => ∀ x ∈ out, plain x) comps _
    (fun _ h => absurd h List.not_mem_nil) (fun out h c _ => cleanStep_plain out c h) c (List.mem_reverse.mp hc)

/-- `RealPath` always lies inside the root: for every working directory, every path argument
(relative or absolute, any components), the result is the root's components followed by
components that are neither empty, "." nor "..". -/
theorem C11_realPath_within_root (rootc cwdc pathc : List String) (pathAbs : Bool)
    (hroot : ∀ c ∈ rootc, plain c) :
    ∃ rest, realPathComps rootc cwdc pathc pathAbs = rootc ++ rest ∧ ∀ c ∈ rest, plain c := by
  have habs : ∀ c ∈ (if pathAbs then cleanComps true pathc else cleanComps true (cwdc ++ pathc)), plain c := by
    split <;> exact C11_clean_rooted_no_dotdot _
  exact ⟨_, cleanComps_of_plain _ _ fun c hc => (List.mem_append.mp hc).elim (hroot c) (habs c), habs⟩

/-- The working directory after a `ChangeDir` — `Rel(root, RealPath(path))`, the components of `RealPath`
below the root — has no empty, "." or ".." component, whatever the directory before. -/
theorem C11_cwd_invariant (rootc cwdc pathc : List String) (pathAbs : Bool)
    (hroot : ∀ c ∈ rootc, plain c) :
    ∀ c ∈ (realPathComps rootc cwdc pathc pathAbs).drop rootc.length, plain c := by
  obtain ⟨rest, h1, h2⟩ := C11_realPath_within_root rootc cwdc pathc pathAbs hroot
  rw [h1, List.drop_left]; exact h2

/-- by induction: after any sequence of directory changes (each one either succeeds, replacing
the working directory by the new one, or fails, leaving it) the working directory is clean, so
`C11_realPath_within_root` applies from every reachable working directory -/
theorem C11_cwd_after_any_sequence (rootc : List String) (hroot : ∀ c ∈ rootc, plain c)
    (steps : List (List String × Bool × Bool)) :
    ∀ (cwdc : List String), (∀ c ∈ cwdc, plain c) →
    ∀ c ∈ steps.foldl (fun cwd s =>
        if s.2.2 then (realPathComps rootc cwd s.1 s.2.1).drop rootc.length else cwd) cwdc, plain c := by
  refine fun cwdc h => List.foldlRecOn (motive := fun cwd => ∀ c ∈ cwd, plain c) steps _ h fun cwd h s _ => ?_
  split
  · exact C11_cwd_invariant rootc cwd s.1 s.2.1 hroot
  · exact h

example : realPathComps ["srv", "ftp"] ["a"] ["..", "..", "..", "etc", "passwd"] false = ["srv", "ftp", "etc", "passwd"] ∧
    realPathComps ["srv", "ftp"] [] ["", "..", "sentinel"] true = ["srv", "ftp", "sentinel"] ∧
    realPathComps ["srv", "ftp"] ["a", "b"] ["..", "c", ".", "", "d"] false = ["srv", "ftp", "a", "c", "d"] := by
  decide

end HT.Path

/- OBLIGATIONS
HT.Path.C11_clean_rooted_no_dotdot
HT.Path.C11_realPath_within_root
HT.Path.C11_cwd_invariant
HT.Path.C11_cwd_after_any_sequence
-/

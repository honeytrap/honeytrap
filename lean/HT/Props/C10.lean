import HT.Lemmas.Limiter
/-!
# C10 — UDP services cannot be used as traffic amplifiers

For each rate-limited UDP service (tftp, memcached, snmp, counterstrike), one source IP
address receives at most the limiter's burst of response datagrams (four) within the
limiter interval, however many datagrams it sends, from whatever source ports and with
whatever contents.  One source's requests never use up another source's allowance.

"Within the limiter interval" is read as: in every time window shorter than the
interval T (a window of length exactly T admits burst+1: the burst at its start and
the token refilled at its end — that is how a token bucket with these parameters is
specified).  Source ports do not occur in the model at all: the limiter's key is the
IP text.
-/
namespace HT.Lim

/-- Per datagram, whatever its commands: the service writes at most one reply per granted
`Allow`, and every grant takes one token's worth out of the source's bucket. -/
theorem C10_replies_le_grants (T B : Nat) (s : Bk) (t : Nat) (cmds : List Cmd) (h : s.last ≤ t) :
    (handle T B s t cmds).1 ≤ (handle T B s t cmds).2.1 :=
  (handle_spec T B t cmds s).1

/-- The bound: for every history of datagrams (any number, any contents, any ports, any other
sources interleaved), one source receives at most `B` replies in any window shorter than `T`. -/
theorem C10_per_ip_bound (T B : Nat) (hT : 0 < T) (ip : String) (st : LimSt) (rs : List Req) (lo hi : Nat)
    (hlast : (st ip).last ≤ lo)
    (hwin : ∀ r ∈ rs, r.ip = ip → lo ≤ r.t ∧ r.t ≤ hi)
    (hsort : rs.Pairwise (fun a b => a.t ≤ b.t))
    (hshort : hi - lo < T) :
    repliesTo T B ip st rs ≤ B := by
  rw [repliesTo_own]
  have hc := repliesBk_conserve T B ((rs.filter (fun r => r.ip = ip)).map (fun r => (r.t, r.cmds)))
    (st ip) lo hi
    (by
      intro x hx
      simp only [List.mem_map, List.mem_filter, decide_eq_true_eq] at hx
      obtain ⟨r, ⟨hr, hip⟩, rfl⟩ := hx
      exact hwin r hr hip)
    (by
      rw [List.pairwise_map]
      exact List.Pairwise.sublist List.filter_sublist hsort)
  have := Nat.lt_of_le_of_lt hc (Nat.add_lt_add_of_le_of_lt (avail_le T B (st ip) lo) hshort)
  exact Nat.lt_succ_iff.mp (Nat.lt_of_mul_lt_mul_right (Nat.succ_mul B T ▸ this))

/-- One source's requests never use up another source's allowance: what a source receives is a
function of its own datagrams alone. -/
theorem C10_independent_sources (T B : Nat) (ip : String) (st : LimSt) (rs rs' : List Req)
    (h : rs.filter (fun r => r.ip = ip) = rs'.filter (fun r => r.ip = ip)) :
    repliesTo T B ip st rs = repliesTo T B ip st rs' := by
  rw [repliesTo_own, repliesTo_own, h]

/-- with the limiter's real parameters the bound is reached: of nine datagrams from one source four are
answered, and the one from another source is -/
example : repliesTo T10 B4 "10.0.0.1" (initSt T10 B4)
    ((List.replicate 9 ⟨"10.0.0.1", 5, [⟨true, true⟩]⟩) ++ [⟨"10.0.0.2", 6, [⟨true, true⟩]⟩]) = 4 := by decide

example : repliesTo T10 B4 "10.0.0.2" (initSt T10 B4)
    ((List.replicate 9 ⟨"10.0.0.1", 5, [⟨true, true⟩]⟩) ++ [⟨"10.0.0.2", 6, [⟨true, true⟩]⟩]) = 1 := by decide

end HT.Lim

/- OBLIGATIONS
HT.Lim.C10_replies_le_grants
HT.Lim.C10_per_ip_bound
HT.Lim.C10_independent_sources
-/

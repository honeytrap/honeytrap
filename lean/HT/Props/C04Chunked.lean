import HT.Lemmas.Http
/-!
# C04 — http requests with chunked bodies: the reports do not depend on the segmentation
-/
namespace HT.Relay
open HT.Seg HT.Proto

/-- http with content-length and chunked request bodies: the request events are the same for every segmentation
of the client's stream, pipelined or not. -/
theorem C04_http_chunked_segmentation (segs segs' : List Bytes) (h : segs.flatten = segs'.flatten) :
    eventsOf httpSvcC .open segs = eventsOf httpSvcC .open segs' :=
  any_two_segmentations httpSvcC httpSvcC_framed .open segs segs' h

/-- "POST /u HTTP/1.1", transfer-encoding: chunked, chunks "Wi" and "ki!" (the second with an extension), cut inside
the first chunk and before the last CRLF: one report with the decoded body -/
example : eventsOf httpSvcC .open [[80, 79, 83, 84, 32, 47, 117, 32, 72, 84, 84, 80, 47, 49, 46, 49, 13, 10, 84, 114, 97, 110, 115, 102, 101, 114, 45, 69, 110, 99, 111, 100, 105, 110, 103, 58, 32, 99, 104, 117, 110, 107, 101, 100, 13, 10, 13, 10, 50, 13, 10, 87], [105, 13, 10, 51, 59, 120, 61, 49, 13, 10, 107, 105, 33, 13, 10, 48, 13, 10], [13, 10]]
    = [httpEv [80, 79, 83, 84] [47, 117] [87, 105, 107, 105, 33]] := by
  decide

end HT.Relay

/- OBLIGATIONS
HT.Relay.C04_http_chunked_segmentation
-/

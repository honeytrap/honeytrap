import HT.Lemmas.Canary
/-!
# C02 — no frame on the wire can terminate the raw (canary) listener

For every sequence of link-layer frames delivered to the raw listener the
listener keeps processing subsequent frames: a later well-formed probe still
yields its event.  Malformed frames are dropped; they never crash the process.

The receive loop has no `recover`, so a fault anywhere in `recvStep` ends the
process: "keeps processing" is `recvLoop … = .ok _`.
-/
namespace HT.Can
open HT.Pkt

/-- Every parser returns (a value or an error) on every byte string: none can panic. -/
theorem C02_parsers_total (b : Bytes) :
    NoFault (ipv4Parse b) ∧ NoFault (tcpParse b) ∧ NoFault (udpParse b) ∧ NoFault (icmpParse b) :=
  ⟨ipv4Parse_total b, tcpParse_total b, udpParse_total b, icmpParse_total b⟩

/-- One frame of at least a link-layer header, in any listener state (any table
contents incl. a full one), any configuration (with or without ARP/route entries):
the step returns. -/
theorem C02_recvStep_no_fault (cfg : Cfg) (st : St) (now : Nat) (frame : Bytes) (d : Drawn)
    (h : 14 ≤ frame.length) : ∃ r, recvStep cfg st now frame d = .ok r :=
  NoFault.bind (ethParse_total frame h) fun _ => .ite (.ok _) <| .bind (ipv4Parse_total _) fun
    | none => .ok _
    | some _ =>
      .ite (.bind (handleTCP_total ..) fun _ => .ok _) <|
      .ite (.bind (udpParse_total _) fun _ => .ok _) <|
      .ite (.bind (icmpParse_total _) fun _ => .ok _) (.ok _)

/-- Every frame history of any length: the loop is still running afterwards. -/
theorem C02_recvLoop_alive (cfg : Cfg) (st : St) (fs : List (Bytes × Nat × Drawn))
    (h : ∀ x ∈ fs, 14 ≤ x.1.length) : ∃ st', recvLoop cfg st fs = .ok st' := by
  induction fs generalizing st with
  | nil => exact ⟨st, rfl⟩
  | cons x xs ih =>
    obtain ⟨f, now, d⟩ := x
    obtain ⟨r, hr⟩ := C02_recvStep_no_fault cfg st now f d (h _ (.head _))
    unfold recvLoop
    rw [hr]
    exact ih r.1 fun y hy => h y (.tail _ hy)

/-- Whether a UDP datagram is accepted (handed to the UDP handler, which reports it)
does not depend on the listener's state: a probe the listener accepts is accepted
after *every* frame history.  `udpAccepted` is the state-free acceptance test
(well-formed Ethernet/IPv4/UDP headers, addressed to one of the listener's IPs). -/
theorem C02_probe_after (cfg : Cfg) (st : St) (fs : List (Bytes × Nat × Drawn))
    (h : ∀ x ∈ fs, 14 ≤ x.1.length) (probe : Bytes) (now : Nat) (d : Drawn)
    (hp : udpAccepted cfg probe = true) :
    ∃ st', recvLoop cfg st fs = .ok st' ∧ recvStep cfg st' now probe d = .ok (st', .udp true) := by
  obtain ⟨st', h'⟩ := C02_recvLoop_alive cfg st fs h
  exact ⟨st', h', udp_accepted_any_state cfg st' now probe d hp⟩

/-- non-vacuity: a concrete well-formed probe to 127.0.0.1:9999 meets `udpAccepted` -/
example : udpAccepted { myIPs := [[127, 0, 0, 1]], arp := [] }
    ([0,0,0,0,0,0,0,0,0,0,0,0,8,0] ++ [69,0,0,31,0,0,0,0,64,17,0,0,10,0,0,1,127,0,0,1] ++
     [19,136,39,15,0,11,0,0] ++ [1,2,3]) = true := by decide

/-- The state table never grows beyond its capacity (a flood is absorbed by slot
reuse or by dropping the attempt, never by a fault). -/
theorem C02_table_bounded (cfg : Cfg) (st : St) (now : Nat) (s : TCB)
    (h : st.slots.length ≤ cfg.cap) : (add cfg st now s).1.slots.length ≤ cfg.cap := by
  unfold add
  split
  · rwa [List.length_set]
  · split
    · rw [List.length_append]; assumption
    · split
      · rwa [List.length_set]
      · exact h

/-! Records of the defects repaired by `fix:` commits (known-findings.txt): the
parsers as they were (`…Raw`) panic on these frames. -/

theorem C02_counterexample_ipv4_totallen_lt_20 :
    isPanic (ipv4ParseRaw ([69, 0, 0, 10] ++ List.replicate 16 0)) = true := by decide

theorem C02_counterexample_tcp_segment_lt_20 :
    isPanic (tcpParseRaw (List.replicate 10 0)) = true := by decide

theorem C02_counterexample_tcp_option_kind_without_length :
    isPanic (tcpParseRaw (List.replicate 12 0 ++ [96, 2] ++ List.replicate 6 0 ++ [1, 1, 1, 2])) = true := by
  decide

end HT.Can

/- OBLIGATIONS
HT.Can.C02_parsers_total
HT.Can.C02_recvStep_no_fault
HT.Can.C02_recvLoop_alive
HT.Can.C02_probe_after
HT.Can.C02_table_bounded
HT.Can.C02_counterexample_ipv4_totallen_lt_20
HT.Can.C02_counterexample_tcp_segment_lt_20
HT.Can.C02_counterexample_tcp_option_kind_without_length
-/

import HT.Model.Iso
/-!
# C03 — connections are isolated; events name the connection that caused them

Statement (properties.jsonl): what a client receives on its connection, and the events recorded for
it, depend only on that connection's own traffic and the configuration — never on other
connections that are open at the same time or were served earlier.

The theorem is about every service whose sessions share at most a table with one slot per key and
whose steps touch only their own local state and the slot of their own key (`HT.Iso.Svc`): for every
schedule — any number of sessions, any interleaving at step granularity, any history before — a
session whose key no other session of the schedule has sees exactly what it sees alone on a fresh
service.  The tftp upload table, the ldap session state and the ftp session are instances here, the
framed line protocols (smtp, the ftp log, http) in `HT.Props.C03Framed`; the two counterexamples
record the shapes the repaired defects had (one slot for everybody; a key that two clients share).
-/
namespace HT.Iso

variable {Sess K V L I O : Type} [DecidableEq Sess] [DecidableEq K]

/-! `view` and `inputsOf` are one definition at two types; each gets its own pair of lemmas. -/

theorem inputsOf_cons_self (s : Sess) (i : I) (l : List (Sess × I)) : inputsOf s ((s, i) :: l) = i :: inputsOf s l := by
  simp [inputsOf]

theorem inputsOf_cons_other {s x : Sess} (h : x ≠ s) (i : I) (l : List (Sess × I)) :
    inputsOf s ((x, i) :: l) = inputsOf s l := by
  simp [inputsOf, h]

theorem view_cons_self (s : Sess) (o : O) (l : List (Sess × O)) : view s ((s, o) :: l) = o :: view s l :=
  inputsOf_cons_self s o l

theorem view_cons_other {s x : Sess} (h : x ≠ s) (o : O) (l : List (Sess × O)) : view s ((x, o) :: l) = view s l :=
  inputsOf_cons_other h o l

/-- From any global state: the outputs of session `s`, the final slot of its key and its final local
state are those of `s` alone with its own inputs — whatever the other sessions do and however the
steps interleave — provided no other session of the schedule has its key. -/
theorem C03_isolation_from (svc : Svc V L I O) (keyOf : Sess → K) (s : Sess) :
    ∀ (sched : List (Sess × I)) (g : G Sess K V L),
      (∀ x ∈ sched, keyOf x.1 = keyOf s → x.1 = s) →
      view s (runG svc keyOf g sched).2 = (runSolo svc (g.tab (keyOf s)) (g.loc s) (inputsOf s sched)).2
      ∧ (runG svc keyOf g sched).1.tab (keyOf s) = (runSolo svc (g.tab (keyOf s)) (g.loc s) (inputsOf s sched)).1.1
      ∧ (runG svc keyOf g sched).1.loc s = (runSolo svc (g.tab (keyOf s)) (g.loc s) (inputsOf s sched)).1.2 := by
  intro sched
  induction sched with
  | nil => exact fun g _ => ⟨rfl, rfl, rfl⟩
  | cons xi rest ih =>
    intro g h
    obtain ⟨x, i⟩ := xi
    have ih := ih (stepG svc keyOf g x i).1 fun y hy => h y (List.mem_cons_of_mem _ hy)
    by_cases hx : x = s
    · subst hx
      simp only [stepG, ↓reduceIte] at ih
      rw [inputsOf_cons_self]
      -- one step of `runG` and of `runSolo` unfolded: both emit the step's output and go on as in `ih`
      show view x ((x, _) :: (runG svc keyOf _ rest).2) = _ :: (runSolo svc _ _ (inputsOf x rest)).2 ∧ _
      rw [view_cons_self]
      exact ⟨congrArg _ ih.1, ih.2⟩
    · have hk : keyOf s ≠ keyOf x := fun hk => hx (h (x, i) List.mem_cons_self hk.symm)
      simp only [stepG, if_neg hk, if_neg (Ne.symm hx)] at ih
      rw [inputsOf_cons_other hx]
      -- one step of `runG` unfolded: it emits an output of `x`, which `s` does not see
      show view s ((x, _) :: (runG svc keyOf _ rest).2) = _ ∧ _
      rw [view_cons_other hx]
      exact ih

/-- **Isolation.** On a freshly built service, under every schedule (histories of earlier sessions
included: they are a prefix of the schedule), a session whose key is its own sees what it sees alone. -/
theorem C03_isolation (svc : Svc V L I O) (keyOf : Sess → K) (s : Sess) (sched : List (Sess × I))
    (h : ∀ x ∈ sched, keyOf x.1 = keyOf s → x.1 = s) :
    view s (runG svc keyOf (G.init svc) sched).2 = (runSolo svc none svc.init (inputsOf s sched)).2 :=
  (C03_isolation_from svc keyOf s sched (G.init svc) h).1

/-- two schedules that contain the same steps of `s` in the same order look the same to `s` -/
theorem C03_any_two_schedules (svc : Svc V L I O) (keyOf : Sess → K) (s : Sess) (a b : List (Sess × I))
    (ha : ∀ x ∈ a, keyOf x.1 = keyOf s → x.1 = s) (hb : ∀ x ∈ b, keyOf x.1 = keyOf s → x.1 = s)
    (hi : inputsOf s a = inputsOf s b) :
    view s (runG svc keyOf (G.init svc) a).2 = view s (runG svc keyOf (G.init svc) b).2 := by
  rw [C03_isolation svc keyOf s a ha, C03_isolation svc keyOf s b hb, hi]

/-- tftp: uploads are keyed by the client's address (IP and port): every client, under every
interleaving of any number of clients' datagrams, gets the replies and the events of its own
transfer alone. -/
theorem C03_tftp_isolated (s : String) (sched : List (String × TIn)) :
    view s (runG tftp (fun a => a) (G.init tftp) sched).2 = (runSolo tftp none () (inputsOf s sched)).2 :=
  C03_isolation tftp (fun a => a) s sched (fun _ _ h => h)

/-- ldap: bind state, gate and search answers of a connection depend on its own requests only. -/
theorem C03_ldap_isolated (creds : List String) (s : String) (sched : List (String × LIn)) :
    view s (runG (ldap creds) (fun a => a) (G.init (ldap creds)) sched).2
      = (runSolo (ldap creds) none Auth.LdapSt.init (inputsOf s sched)).2 :=
  C03_isolation (ldap creds) (fun a => a) s sched (fun _ _ h => h)

/-- ftp: login state and working directory of a session depend on its own commands only — whatever
the other sessions do in between (logins, directory changes), in every interleaving. -/
theorem C03_ftp_isolated (dirs : List String) (s : String) (sched : List (String × (String × String))) :
    view s (runG (ftpSvc dirs) (fun a => a) (G.init (ftpSvc dirs)) sched).2
      = (runSolo (ftpSvc dirs) none { auth := Auth.FtpSt.init, cwd := "/" } (inputsOf s sched)).2 :=
  C03_isolation (ftpSvc dirs) (fun a => a) s sched (fun _ _ h => h)

/-- the ldap service as it was: the bind state lived in the one service object (every session's key
is the same slot) -/
def ldapShared (creds : List String) : Svc Auth.LdapSt Unit LIn Nat :=
  { step := fun slot _ i =>
      let st := slot.getD Auth.LdapSt.init
      let r := ldapStep creds none st i
      (some r.2.1, (), r.2.2)
    init := () }

/-- client "a" never binds, yet its modify request succeeds once client "b" has bound -/
theorem C03_counterexample_shared_bind_state :
    view "a" (runG (ldapShared ["root:pw"]) (fun (_ : String) => ()) (G.init (ldapShared ["root:pw"]))
      [("b", .bind "root" "pw"), ("a", .gated)]).2 = [0]
    ∧ (runSolo (ldapShared ["root:pw"]) none () [.gated]).2 = [53] := by decide

/-- the port of an address text `ip:port`; the theorem below writes its key function out and does not use it -/
def portOf (a : String) : String := ((a.splitOn ":").getLast?).getD ""

/-- tftp keyed by the source port only: two clients with different addresses and the same port -/
theorem C03_counterexample_key_collision :
    view "10.0.0.1:69" (runG tftp (fun (a : String) => if a = "10.0.0.1:69" ∨ a = "10.0.0.2:69" then "69" else a) (G.init tftp)
      [("10.0.0.1:69", .wrq [97] [111]), ("10.0.0.2:69", .wrq [98] [111]), ("10.0.0.1:69", .data 1 [1, 2])]).2
    ≠ (runSolo tftp none () [.wrq [97] [111], .data 1 [1, 2]]).2 := by decide

/-! non-vacuity: three clients, the hypothesis holds, the view is not empty -/
example : view "a" (runG tftp (fun (a : String) => a) (G.init tftp)
    [("a", .wrq [120] [111]), ("b", .wrq [121] [111]), ("c", .data 1 [9]), ("b", .data 1 [7]), ("a", .data 1 [5, 6])]).2
    = [{ reply := [0, 4, 0, 0], events := [("tftp-write", [[120], [111]])] },
       { reply := [0, 4, 0, 1], events := [("tftp-write-file", [[120], [111], [5, 6]])] }] := by decide

end HT.Iso

/- OBLIGATIONS
HT.Iso.C03_isolation_from
HT.Iso.C03_isolation
HT.Iso.C03_any_two_schedules
HT.Iso.C03_tftp_isolated
HT.Iso.C03_ldap_isolated
HT.Iso.C03_ftp_isolated
HT.Iso.C03_counterexample_shared_bind_state
HT.Iso.C03_counterexample_key_collision
-/

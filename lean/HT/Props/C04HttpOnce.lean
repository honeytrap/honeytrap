import HT.Props.C04Http
import HT.Lemmas.Text
/-!
# C04 — http: exactly one event per request, whatever the segmentation or pipelining

A request: `METHOD SP target SP version CRLF`, header lines `name: value CRLF`, an optional
`Content-Length: n CRLF`, an empty line, `n` body bytes.  The event carries method, target and the
first 1024 body bytes.
-/
namespace HT.Relay
open HT.Seg HT.Proto

def colon : UInt8 := 58
def tab : UInt8 := 9

def renderLines' (ls : List Bytes) : Bytes := ls.flatMap (fun l => l ++ [cr, lf])

theorem lines_len_le (ls : List Bytes) : ls.length ≤ (renderLines' ls).length := by
  induction ls with
  | nil => simp [renderLines']
  | cons a as ih =>
    simp only [renderLines', List.flatMap_cons, List.length_append, List.length_cons] at ih ⊢
    omega

theorem headLines_render (ls : List Bytes) (h : ∀ l ∈ ls, lf ∉ l ∧ l ≠ []) (rest : Bytes) :
    ∀ fuel, ls.length < fuel → headLines fuel (renderLines' ls ++ cr :: lf :: rest) = some (ls, rest) := by
  induction ls with
  | nil =>
    intro fuel hf
    obtain ⟨f, rfl⟩ : ∃ f, fuel = f + 1 := ⟨fuel - 1, by omega⟩
    simp [headLines, renderLines', bindP, line_empty_crlf, show stripEOL [cr, lf] = [] by decide, pureP]
  | cons l ls ih =>
    intro fuel hf
    obtain ⟨f, rfl⟩ : ∃ f, fuel = f + 1 := ⟨fuel - 1, by omega⟩
    obtain ⟨hl, hne⟩ := h l List.mem_cons_self
    have hi := ih (fun x hx => h x (List.mem_cons_of_mem _ hx)) f (by simp only [List.length_cons] at hf; omega)
    have e : renderLines' (l :: ls) ++ cr :: lf :: rest = l ++ cr :: lf :: (renderLines' ls ++ cr :: lf :: rest) := by
      simp [renderLines']
    rw [e]
    unfold headLines
    simp [bindP, line_crlf l _ hl, stripEOL_crlf, hne, hi, pureP]

theorem head_render {α : Type} (k : List Bytes → P α) (ls : List Bytes) (h : ∀ l ∈ ls, lf ∉ l ∧ l ≠ []) (rest : Bytes) :
    bindP (headLines ((renderLines' ls ++ cr :: lf :: rest).length + 1)) k (renderLines' ls ++ cr :: lf :: rest)
      = k ls rest := by
  rw [bindP, headLines_render ls h rest _ (by
    have := lines_len_le ls
    simp only [List.length_append]; omega)]

theorem splitOn_three (m t v : Bytes) (hm : sp ∉ m) (ht : sp ∉ t) (hv : sp ∉ v) :
    splitOn sp (m ++ sp :: (t ++ sp :: v)) = [m, t, v] := by
  rw [splitOn_word sp m _ hm, splitOn_word sp t _ ht, splitOn_nosep sp v hv]

/-- a header line `name: value` -/
def hdrLine (nv : Bytes × Bytes) : Bytes := nv.1 ++ colon :: sp :: nv.2

/-- "Content-Length" -/
def bContentLength : Bytes := [67, 111, 110, 116, 101, 110, 116, 45, 76, 101, 110, 103, 116, 104]

def clLine (n : Nat) : Bytes := bContentLength ++ colon :: sp :: natDigits n

/-- The lines of a request head — request line, `name: value` lines, further lines — are what `headLines_render`
asks for. -/
theorem reqLines_ok (m t v : Bytes) (hdrs : List (Bytes × Bytes)) (extra : List Bytes)
    (hm : lf ∉ m) (ht : lf ∉ t) (hv : lf ∉ v) (hh : ∀ x ∈ hdrs, lf ∉ x.1 ∧ lf ∉ x.2)
    (he : ∀ l ∈ extra, lf ∉ l ∧ l ≠ []) :
    ∀ l ∈ (m ++ sp :: (t ++ sp :: v)) :: (hdrs.map hdrLine ++ extra), lf ∉ l ∧ l ≠ [] := by
  intro l hl
  simp only [List.mem_cons, List.mem_append, List.mem_map] at hl
  rcases hl with rfl | ⟨x, hx, rfl⟩ | hl
  · simpa [hm, ht, hv] using (by decide : lf ≠ sp)
  · simpa [hdrLine, hh x hx] using (by decide : lf ≠ colon ∧ lf ≠ sp)
  · exact he l hl

theorem takeWhile_name (n rest : Bytes) (h : colon ∉ n) : (n ++ colon :: rest).takeWhile (· != 58) = n := by
  rw [List.takeWhile_append_of_pos fun a ha => by simpa [colon] using ne_of_mem_of_not_mem ha h]
  simp [colon]

theorem dropWhile_name (n rest : Bytes) (h : colon ∉ n) : (n ++ colon :: rest).dropWhile (· != 58) = colon :: rest := by
  rw [List.dropWhile_append_of_pos fun a ha => by simpa [colon] using ne_of_mem_of_not_mem ha h]
  simp [colon]

theorem find_skip (nm : Bytes) (hs : List (Bytes × Bytes))
    (h : ∀ x ∈ hs, colon ∉ x.1 ∧ x.1.map lower ≠ nm) (tail : List Bytes) :
    (hs.map hdrLine ++ tail).find? (fun l => (l.takeWhile (· != 58)).map lower == nm)
      = tail.find? (fun l => (l.takeWhile (· != 58)).map lower == nm) := by
  induction hs with
  | nil => rfl
  | cons x xs ih =>
    have hx := h x List.mem_cons_self
    have hne : ((x.1.map lower) == nm) = false := by simpa using hx.2
    simp only [List.map_cons, List.cons_append, List.find?_cons, hdrLine, takeWhile_name x.1 _ hx.1, hne]
    exact ih (fun y hy => h y (List.mem_cons_of_mem _ hy))

theorem headerValue_last (nm name value : Bytes) (hs : List (Bytes × Bytes))
    (h : ∀ x ∈ hs, colon ∉ x.1 ∧ x.1.map lower ≠ nm) (hc : colon ∉ name) (hn : name.map lower = nm) :
    headerValue nm (hs.map hdrLine ++ [name ++ colon :: sp :: value]) = some (trimSpaces (sp :: value)) := by
  simp [headerValue, find_skip nm hs h, takeWhile_name name _ hc, hn, dropWhile_name name _ hc]

theorem headerValue_none (nm : Bytes) (hs : List (Bytes × Bytes)) (h : ∀ x ∈ hs, colon ∉ x.1 ∧ x.1.map lower ≠ nm) :
    headerValue nm (hs.map hdrLine) = none := by
  have := find_skip nm hs h []
  simp only [List.append_nil] at this
  simp [headerValue, this]

structure HRq where
  m : Bytes
  t : Bytes
  v : Bytes
  hdrs : List (Bytes × Bytes)
  body : Bytes

/-- header names: non-empty, no colon/LF, and not Content-Length in any case; values without LF -/
def hdrOk (nv : Bytes × Bytes) : Prop :=
  nv.1 ≠ [] ∧ colon ∉ nv.1 ∧ lf ∉ nv.1 ∧ lf ∉ nv.2 ∧ nv.1.map lower ≠ nContentLength

def HRq.ok (q : HRq) : Prop :=
  q.m ≠ [] ∧ sp ∉ q.m ∧ lf ∉ q.m ∧ sp ∉ q.t ∧ lf ∉ q.t ∧ sp ∉ q.v ∧ lf ∉ q.v ∧ (∀ h ∈ q.hdrs, hdrOk h)

def HRq.lines (q : HRq) : List Bytes :=
  (q.m ++ sp :: (q.t ++ sp :: q.v)) :: (q.hdrs.map hdrLine ++ (if q.body.isEmpty then [] else [clLine q.body.length]))

def HRq.bytes (q : HRq) : Bytes := renderLines' q.lines ++ [cr, lf] ++ q.body

theorem headerValue_cl (hs : List (Bytes × Bytes)) (h : ∀ x ∈ hs, hdrOk x) (n : Nat) :
    headerValue nContentLength (hs.map hdrLine ++ [clLine n]) = some (natDigits n) := by
  rw [clLine, headerValue_last nContentLength bContentLength _ hs (fun x hx => ⟨(h x hx).2.1, (h x hx).2.2.2.2⟩)
    (by decide) (by decide)]
  rw [trimSpaces_sp, trimSpaces_noblank _ fun d hd => ?_]
  have := natDigits_mem n d hd
  constructor <;> rintro rfl <;> simp at this

theorem httpHead_render (q : HRq) (h : q.ok) (rest : Bytes) :
    httpHead (renderLines' q.lines ++ cr :: lf :: rest) = some (some (q.m, q.t, q.body.length), rest) := by
  obtain ⟨_, hm, hml, ht, htl, hv, hvl, hh⟩ := h
  have hskip : ∀ x ∈ q.hdrs, colon ∉ x.1 ∧ x.1.map lower ≠ nContentLength := fun x hx => ⟨(hh x hx).2.1, (hh x hx).2.2.2.2⟩
  have hlines := reqLines_ok q.m q.t q.v q.hdrs (if q.body.isEmpty then [] else [clLine q.body.length]) hml htl hvl
    (fun x hx => ⟨(hh x hx).2.2.1, (hh x hx).2.2.2.1⟩) (by
      intro l hl
      split at hl
      · cases hl
      · rw [List.mem_singleton.mp hl]
        refine ⟨?_, by simp [clLine]⟩
        simpa [clLine, natDigits_no_lf] using (by decide : lf ∉ bContentLength ∧ lf ≠ colon ∧ lf ≠ sp))
  rw [httpHead, head_render _ q.lines hlines rest]
  simp only [pureP, headInfo, HRq.lines, splitOn_three q.m q.t q.v hm ht hv]
  by_cases hb : q.body.isEmpty = true
  · have hb0 : q.body.length = 0 := by simpa using hb
    simp only [hb, if_true, List.append_nil, headerValue_none _ q.hdrs hskip, hb0]
  · simp only [hb, Bool.false_eq_true, if_false, headerValue_cl q.hdrs hh, digitsVal_natDigits]

def httpReqEv (q : HRq) : Ev := httpEv q.m q.t q.body

/-- A request on a machine that reads the head and then the announced body, as `httpSvc` and every `oneSvc c` do:
`A` is what the machine does with a request without body, `B` with a request and its body. -/
theorem req_steps {p : Proto HSSt Ev} {A : Bytes → Bytes → List Ev × HSSt} {B : Bytes → Bytes → Bytes → List Ev × HSSt}
    (hopen : ∀ b, p.next .open b = bindP httpHead (fun r => match r with
      | some (m, t, 0) => pureP (A m t)
      | some (m, t, n + 1) => pureP ([], .body m t n)
      | none => pureP ([], .closed)) b)
    (hbody : ∀ m t n b, p.next (.body m t n) b = bindP (takeN (n + 1)) (fun body => pureP (B m t body)) b)
    (q : HRq) (h : q.ok) (rest : Bytes) :
    Steps p .open (q.bytes ++ rest) (if q.body = [] then A q.m q.t else B q.m q.t q.body).1
      (if q.body = [] then A q.m q.t else B q.m q.t q.body).2 rest := by
  have e : q.bytes ++ rest = renderLines' q.lines ++ cr :: lf :: (q.body ++ rest) := by simp [HRq.bytes]
  have hhead := httpHead_render q h (q.body ++ rest)
  rw [e]
  cases hb : q.body with
  | nil =>
    rw [hb] at hhead
    exact .one (by rw [hopen, bindP, hhead]; rfl)
  | cons c cs =>
    rw [hb] at hhead
    refine (Steps.one (ev := []) (by rw [hopen, bindP, hhead]; rfl)).trans (.one ?_)
    have ht : takeN (cs.length + 1) (c :: cs ++ rest) = some (c :: cs, rest) := (takeN_eq_some _ _ _ _).mpr ⟨rfl, rfl⟩
    rw [hbody, bindP, ht]
    rfl

theorem http_req (q : HRq) (h : q.ok) (rest : Bytes) : Steps httpSvc .open (q.bytes ++ rest) [httpReqEv q] .open rest := by
  have := req_steps (p := httpSvc) (fun _ => rfl) (fun _ _ _ _ => rfl) q h rest
  unfold httpReqEv
  split at this
  · rename_i hb; simpa [hb] using this
  · exact this

/-- http: any sequence of requests (any headers other than Content-Length, any body), pipelined or not,
in any segmentation: exactly one event per request, in order, with method, target and the first
1024 bytes of the body. -/
theorem C04_http_exactly_once (qs : List HRq) (h : ∀ q ∈ qs, q.ok)
    (segs : List Bytes) (hs : segs.flatten = qs.flatMap HRq.bytes) :
    eventsOf httpSvc .open segs = qs.map httpReqEv := by
  have := eventsOf_eq_of_steps_all httpSvc httpSvc_framed
    (Steps.map HRq.bytes httpReqEv .open qs (fun q hq => http_req q (h q hq)) []) segs (by simpa using hs)
  simpa [httpSvc, httpSvcFinish] using this

end HT.Relay

/- OBLIGATIONS
HT.Relay.C04_http_exactly_once
-/

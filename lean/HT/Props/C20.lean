import HT.Lemmas.Knock
/-!
# C20 — a port scan is reported once, listing exactly the ports probed

For any burst of connection attempts from one source to one of the sensor's
addresses, the raw listener emits a port-scan event for that source and
destination whose port list is exactly the set of distinct protocol/port pairs
probed, each listed once.  Simultaneous bursts from different sources are
reported separately, each exactly once per burst.
-/
namespace HT.Knock

/-- `Each` visits exactly the items present when it started, once each and in order —
whatever the callback does to the set meanwhile (remove the visited item, remove
others, add). -/
theorem C20_each_visits_all_once {α : Type} [DecidableEq α] (s : USet α)
    (f : USet α → Nat → α → USet α) :
    (s.each (fun c i x => (f c i x, [x]))).2 = s.items :=
  each_go_visits f s.items s 0

/-- Adding keeps the set free of `uniqueFunc`-equal pairs … -/
theorem C20_add_keeps_unique {α : Type} [DecidableEq α] (eq : α → α → Bool) (s : USet α) (x : α)
    (h : s.items.Pairwise (fun a b => eq b a = false)) :
    (s.add eq x).1.items.Pairwise (fun a b => eq b a = false) := by
  unfold USet.add
  split
  · exact h
  · next hf =>
    refine List.pairwise_append.mpr ⟨h, List.pairwise_singleton _ _, fun a ha b hb => ?_⟩
    rw [List.mem_singleton.mp hb]
    exact Bool.eq_false_iff.mpr (List.find?_eq_none.mp hf a ha)

/-- … and is idempotent (for a reflexive `uniqueFunc`): the second `Add` returns the item
the first one returned and changes nothing. -/
theorem C20_add_idem {α : Type} [DecidableEq α] (eq : α → α → Bool) (hrefl : ∀ a, eq a a = true)
    (s : USet α) (x : α) :
    ((s.add eq x).1.add eq x).1.items = (s.add eq x).1.items := by
  unfold USet.add
  cases hf : s.items.find? (fun y => eq x y) with
  | some y => simp [hf]
  | none =>
    have : (s.items ++ [x]).find? (fun y => eq x y) = some x := by
      rw [List.find?_append, hf]; simp [hrefl]
    simp [this]

/-- After `Remove(x)` the item is gone (items of a set are pairwise distinct). -/
theorem C20_remove_then_absent {α : Type} [DecidableEq α] (s : USet α) (x : α) (h : s.items.Nodup) :
    x ∉ (s.remove x).items := by
  unfold USet.remove
  exact fun hm => (List.Nodup.mem_erase_iff h).mp hm |>.1 rfl

/-- Record of the defect repaired by a `fix:` commit: with `Each` walking the shared backing
array, report-and-remove over three due groups visited A, C, C. -/
theorem C20_counterexample_third_group_reported_twice :
    (USetOld.tickAll ({ arr := #[some 'A', some 'B', some 'C', none], len := 3 } : USetOld Char)).2
      = ['A', 'C', 'C'] := by decide

/-- One group per source/destination pair that knocked, no more, no fewer. -/
theorem C20_one_group_per_source (ks : List (Key × Probe × Nat)) :
    (keys (run ks)).Nodup ∧ ∀ k, k ∈ keys (run ks) ↔ ∃ x ∈ ks, x.1 = k := by
  rw [keys_run]
  refine ⟨(foldl_addU _ _ List.nodup_nil).1, fun k => ?_⟩
  simp only [(foldl_addU _ _ List.nodup_nil).2, List.not_mem_nil, false_or, List.mem_map]

/-- The port list of a group is exactly the set of distinct protocol/port pairs its source
probed: no duplicates, nothing missing, nothing extra. -/
theorem C20_ports_exact (ks : List (Key × Probe × Nat)) (g : Group) (hg : g ∈ run ks) :
    g.probes.Nodup ∧ ∀ p, p ∈ g.probes ↔ ∃ x ∈ ks, x.1 = g.key ∧ x.2.1 = p := by
  rw [← probesOf_of_mem (run ks) g hg (C20_one_group_per_source ks).1, probesOf_run]
  refine ⟨(foldl_addU _ _ List.nodup_nil).1, fun p => ?_⟩
  simp only [(foldl_addU _ _ List.nodup_nil).2, List.not_mem_nil, false_or, List.mem_map, List.mem_filter,
    decide_eq_true_eq, and_assoc]

/-- At the tick that follows a burst (every group idle for 5 s) every group is reported
exactly once, with its port list, and the detector is empty afterwards — so no later
tick reports any of them again. -/
theorem C20_reported_once (gs : List Group) (now later : Nat) (h : ∀ g ∈ gs, due g now = true) :
    (tick gs now).2 = gs.map (fun g => { key := g.key, ports := g.probes, duration := g.last - g.start }) ∧
    (tick gs now).1 = [] ∧ (tick (tick gs now).1 later).2 = [] := by
  have h1 : gs.filter (fun g => due g now) = gs := List.filter_eq_self.mpr h
  have h2 : gs.filter (fun g => ¬ due g now) = [] :=
    List.filter_eq_nil_iff.mpr fun g hg => by rw [h g hg]; decide
  simp only [tick, h1, h2, List.filter_nil, List.map_nil, and_self]

/-- A tick never reports a group it keeps: the groups kept were there before and are not due; the
reports are those of the due groups, in order (compared by key). -/
theorem C20_tick_partition (gs : List Group) (now : Nat) :
    (∀ g ∈ (tick gs now).1, g ∈ gs ∧ due g now = false) ∧
    ((tick gs now).2.map (·.key)) = (gs.filter (fun g => due g now)).map (·.key) := by
  constructor
  · intro g hg
    simp only [tick, List.mem_filter] at hg
    exact ⟨hg.1, by simpa using hg.2⟩
  · simp [tick, List.map_map, Function.comp_def]

/-- non-vacuity: two interleaved sources, mixed protocols and repeated ports -/
example :
    let a : Key := { srcMac := [], dstMac := [], srcIP := [10,0,0,1], dstIP := [127,0,0,1] }
    let b : Key := { a with srcIP := [10,0,0,2] }
    let gs := run [(a, .tcp 80, 0), (b, .udp 53, 1), (a, .udp 80, 2), (a, .tcp 80, 3), (b, .icmp, 4), (b, .udp 53, 5)]
    (tick gs 5005).2.map (fun r => (r.key.srcIP, r.ports)) =
      [([10,0,0,1], [.tcp 80, .udp 80]), ([10,0,0,2], [.udp 53, .icmp])] := by decide

end HT.Knock

/- OBLIGATIONS
HT.Knock.C20_each_visits_all_once
HT.Knock.C20_add_keeps_unique
HT.Knock.C20_add_idem
HT.Knock.C20_remove_then_absent
HT.Knock.C20_counterexample_third_group_reported_twice
HT.Knock.C20_one_group_per_source
HT.Knock.C20_ports_exact
HT.Knock.C20_reported_once
HT.Knock.C20_tick_partition
-/

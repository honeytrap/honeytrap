import HT.Model.Ipp
import HT.Model.Proto
/-!
# C01 — input-bounded work in the two recursive / looping decoders that used to run away

* ipp: the group loop of `ippMsg.decode` (`HT.Ipp.groups`) yields at most one group per input byte —
  the loop that used to append groups for ever on a body without end tag is bounded by the input.
* redis: `parseRedisDataDepth` (`HT.Proto.rItem`) refuses to descend below the configured number of
  levels without reading anything; the recursion is structural in that number.
-/
namespace HT.Ipp

def Eats {α : Type} (k : Nat) (rd : Bytes → Option (α × Bytes)) : Prop :=
  ∀ b v r, rd b = some (v, r) → r.length + k ≤ b.length

section
variable {α β : Type} {p : Bytes → Option (α × Bytes)} {q : Bytes → Option (β × Bytes)}

theorem Eats.le_of_le_rest {i : Nat} (hp : Eats i p) {b r : Bytes} {x : α} (h : p b = some (x, r)) {n : Nat}
    (hn : n ≤ r.length) : n ≤ b.length :=
  Nat.le_trans hn (Nat.le_trans (Nat.le_add_right ..) (hp b x r h))

theorem Eats.seq {i j : Nat} (hp : Eats i p) (hq : Eats j q) {b r1 r : Bytes} {x : α} {y : β}
    (h1 : p b = some (x, r1)) (h2 : q r1 = some (y, r)) : r.length + j + i ≤ b.length :=
  Nat.le_trans (Nat.add_le_add_right (hq _ _ _ h2) i) (hp _ _ _ h1)

end

theorem rd8_eats : Eats 1 rd8
  | _ :: _, _, _, e => by cases e; exact Nat.le_refl _

theorem rd16_eats : Eats 2 rd16
  | _ :: _ :: _, _, _, e => by cases e; exact Nat.le_refl _

theorem rd32_eats : Eats 4 rd32
  | _ :: _ :: _ :: _ :: _, _, _, e => by cases e; exact Nat.le_refl _

theorem rdData_eats : Eats 2 rdData := by
  intro b s r
  fun_cases rdData b <;> intro e <;> cases e
  exact Nat.le_trans (Nat.add_le_add_right (List.drop_sublist ..).length_le 2) (rd16_eats _ _ _ ‹_›)

theorem rdInt_eats : Eats 6 rdInt := by
  intro b n r
  fun_cases rdInt b <;> intro e
  · exact rd16_eats.seq rd32_eats ‹_› e
  · cases e

theorem rdBool_eats : Eats 3 rdBool := by
  intro b x r
  fun_cases rdBool b <;> intro e <;> cases e
  exact rd16_eats.seq rd8_eats ‹_› ‹_›

theorem more_eats {α : Type} {rdV : Bytes → Option (α × Bytes)} {j : Nat} (hv : Eats j rdV) (tag : UInt8)
    (f : Nat) : Eats 0 (more rdV tag f) := by
  intro b
  fun_induction more rdV tag f b <;> intro vs r e <;> cases e
  · exact Nat.le_refl _
  · exact Nat.le_refl _
  · next ih => exact Nat.le_succ_of_le (rd16_eats.le_of_le_rest ‹_› (hv.le_of_le_rest ‹_› (ih _ _ ‹_›)))

theorem decodeVal_eats (k : Kind) (tag : UInt8) (f : Nat) : Eats 0 (decodeVal k tag f) := by
  intro b v r
  fun_cases decodeVal k tag f b <;> intro e <;> cases e
  · exact rdData_eats.le_of_le_rest ‹_› (rdInt_eats.le_of_le_rest ‹_› (more_eats rdInt_eats tag f _ _ _ ‹_›))
  · exact rdData_eats.le_of_le_rest ‹_› (rdData_eats.le_of_le_rest ‹_› (more_eats rdData_eats tag f _ _ _ ‹_›))
  · exact rdData_eats.le_of_le_rest ‹_› (rdBool_eats.le_of_le_rest ‹_› (more_eats rdBool_eats tag f _ _ _ ‹_›))
  · exact rdData_eats.le_of_le_rest ‹_› (rd16_eats.le_of_le_rest ‹_› (rd32_eats.le_of_le_rest ‹_› (rd32_eats.le_of_le_rest ‹_› (Nat.le_refl _))))

theorem groupVals_eats (f : Nat) : Eats 0 (groupVals f) := by
  intro b
  fun_induction groupVals f b <;> intro vs r e <;> cases e
  · exact Nat.le_refl _
  · next ih => exact Nat.le_succ_of_le ((decodeVal_eats _ _ _).le_of_le_rest ‹_› (ih _ _ ‹_›))

/-- **The group loop is bounded by the input**: every group costs at least its tag byte, so the number
of groups plus the bytes left over never exceeds the bytes given — for every input and every fuel.
(As it was, a body without end tag made the loop append groups without bound.) -/
theorem C01_ipp_groups_bounded : ∀ (f : Nat) (b : Bytes) (gs : List Group) (r : Bytes),
    groups f b = some (gs, r) → gs.length + r.length + 1 ≤ b.length := by
  intro f b
  fun_induction groups f b <;> intro gs r e <;> cases e
  · exact Nat.le_of_eq (by simp)
  · next ih =>
    have := (groupVals_eats _).le_of_le_rest ‹_› (ih _ _ ‹_›)
    simp only [List.length_cons]; omega

/-- the 9: eight header bytes and the end tag -/
theorem decode_length (raw : Bytes) (m : Msg) (h : decode raw = some m) :
    m.groups.length + m.data.length + 9 ≤ raw.length := by
  revert h
  fun_cases decode raw <;> intro h <;> cases h
  have := rd16_eats _ _ _ ‹_›
  have := rd32_eats _ _ _ ‹_›
  have := C01_ipp_groups_bounded _ _ _ _ ‹_›
  simp only [List.length_cons]; omega

/-- … and so is the whole decode: a decoded message has fewer groups than the body has bytes -/
theorem C01_ipp_decode_bounded (raw : Bytes) (m : Msg) (h : decode raw = some m) : m.groups.length < raw.length := by
  have := decode_length raw m h
  omega

end HT.Ipp

namespace HT.Proto
open HT.Seg

/-- redis: below the last permitted level the parser rejects the request without consuming a byte;
`rItem` recurses structurally on the number of levels, `redisLevels = 33` at the top. -/
theorem C01_redis_nesting_bounded (b : Bytes) : rItem 0 b = some (none, b) := rfl

example : redisLevels = 33 := rfl

end HT.Proto

/- OBLIGATIONS
HT.Ipp.C01_ipp_groups_bounded
HT.Ipp.C01_ipp_decode_bounded
HT.Proto.C01_redis_nesting_bounded
-/

import HT.Lemmas.Handoff
import HT.Gen.Facts
/-!
# C14 (hand-off) — the pushed bytes reach the connection's handler under every schedule

"… reports the connection in an event … whose payload is a prefix of the client's byte stream
containing at least its first pushed segment."  The handler goroutine reads the socket once; the
receive loop writes the segment into the socket's buffer and signals the push without blocking.
With the signal channel as the source makes it (capacity `HT.Gen.canarySignalCap`, regenerated from
`listener/canary/socket.go` on every run) the read returns the pushed bytes under **every**
interleaving of the two goroutines; with an unbuffered channel (the code as it was) there is an
interleaving after which the reader stays parked for good (in the implementation: until the 60 s
timeout, after which the connection is reported with an empty payload).
-/
namespace HT.Handoff

/-- The source's channel keeps a signal (regenerated fact). -/
theorem GenC14_signal_kept : decide (HT.Gen.canarySignalCap ≥ 1) = true := by decide

/-- Every schedule of the two goroutines, however long: once both have run to their end the
handler's read has returned the pushed bytes. -/
theorem C14_handoff_delivers (sch : List Bool) :
    (finish (decide (HT.Gen.canarySignalCap ≥ 1)) (run (decide (HT.Gen.canarySignalCap ≥ 1)) sch init)).r = .fin true :=
  delivers_of_cap _ (of_decide_eq_true GenC14_signal_kept) sch

/-- the state in which the code as it was is stuck: bytes buffered, signal dropped, reader parked -/
def stuck : St := { buf := true, tok := false, r := .waiting, w := .fin }

theorem stuck_stays : ∀ b, step false stuck b = stuck := by decide

/-- The code as it was (unbuffered channel): the reader finds the buffer empty, the segment is
written and the signal sent before the reader parks — dropped; the reader then parks and no
continuation of the schedule, however long, wakes it. -/
theorem C14_counterexample_handoff_unbuffered :
    run false [true, false, false, true] init = stuck ∧
    ∀ sch : List Bool, (run false sch stuck).r = .waiting := by
  refine ⟨by decide, fun sch => ?_⟩
  induction sch with
  | nil => rfl
  | cons b bs ih => rw [run, List.foldl_cons, stuck_stays]; exact ih

/-- non-vacuity: a schedule in which the signal is sent while the reader is between its check and
its wait is among those the theorem covers, and it ends with the bytes delivered -/
example : (finish true (run true [true, false, false, true] init)).r = .fin true := by decide

end HT.Handoff

/- OBLIGATIONS
HT.Handoff.C14_handoff_delivers
HT.Handoff.C14_counterexample_handoff_unbuffered
HT.Handoff.GenC14_signal_kept
-/

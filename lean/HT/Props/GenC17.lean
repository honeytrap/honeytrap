import HT.Gen.Facts
import HT.Model.Ipp
/-!
Agreement of the models' constants and tables with facts regenerated from the source.
`HT.Gen.*` is rewritten by `/verif/extract` from /repo's working tree on every run (go/parser + go/ast);
each theorem here is re-checked by the kernel against what the code says now.  If a constant or table
changes in the source, the theorem that ties the model to it stops checking and the check reports the
broken tie.
-/
namespace HT.GenAgree

/-- the decoder type the source's switch selects for a tag, as the model's kind -/
def kindOfName : String → Option HT.Ipp.Kind
  | "valInt" => some .int
  | "valBool" => some .bool
  | "valStr" => some .str
  | "valRangeInt" => some .range
  | _ => none

def genKind (t : Nat) : Option HT.Ipp.Kind :=
  match HT.Gen.ippKinds.find? (fun r => r.1 == t) with
  | some r => kindOfName r.2
  | none => none

/-- for every one of the 256 tag values the model's `kindOf` is what the switch of `attribGroup.decode`
does with the tag constants of message.go (kernel evaluation of the whole table, after both sides are
unfolded to comparisons of `t` with numerals: byte comparisons and a list search for each tag are slow
to evaluate) -/
theorem C17_gen_ipp_kinds : (List.range 256).all (fun t => HT.Ipp.kindOf (UInt8.ofNat t) == genKind t) = true := by
  simp only [HT.Ipp.kindOf, Bool.or_eq_true, beq_iff_eq, UInt8.ofNat_eq_iff_mod_eq_toNat, UInt8.reduceToNat,
    genKind, HT.Gen.ippKinds, List.find?]
  decide +kernel

end HT.GenAgree

/- OBLIGATIONS
HT.GenAgree.C17_gen_ipp_kinds
-/

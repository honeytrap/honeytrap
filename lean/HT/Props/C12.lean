import HT.Model.Auth
/-!
# C12 — logins succeed exactly for configured credentials; gated commands stay gated

For the ssh simulator, LDAP and FTP services, an authentication attempt succeeds if and
only if the presented user/password pair is in the service's credential set (or the set
contains the wildcard entry), independently of earlier failed attempts […].  Operations
that require authentication — FTP file and directory commands, LDAP
add/modify/delete/rename/compare — are refused until a login has succeeded on the same
connection.

"Succeeds" = the connection becomes authenticated.  The FTP service's credential set is
its fixed user table; an LDAP bind with empty name and empty password is the anonymous
bind (answered with success, authenticates nobody).  The event clause (every attempt is
reported with the password presented and the user name as evaluated) is checked by the
correspondence oracle on every attempt.
-/
namespace HT.Auth

/-- An attempt is accepted iff the wildcard or exactly this user/password pair is configured. -/
theorem C12_ssh_iff (cs : List Cred) (u p : String) :
    sshCheck cs u p = true ↔ Cred.wildcard ∈ cs ∨ Cred.pair u p ∈ cs := by
  induction cs with
  | nil => simp [sshCheck]
  | cons c cs ih =>
    cases c with
    | wildcard => simp [sshCheck]
    | malformed => simp [sshCheck, ih]
    | pair u' p' => simp [sshCheck, ih, or_left_comm, @eq_comm _ u', @eq_comm _ p']

/-- The decision is a function of the credential set and the attempt alone: earlier attempts,
failed or not, cannot influence it (there is no state to carry). -/
theorem C12_ssh_history_independent (cs : List Cred) (history : List (String × String)) (u p : String) :
    ((history ++ [(u, p)]).map (fun a => sshCheck cs a.1 a.2)).getLast? = some (sshCheck cs u p) := by
  simp

theorem any_cred_iff {creds : List String} {dn pw : String} :
    creds.any (fun u => u = "*" || u = dn ++ ":" ++ pw) = true ↔ "*" ∈ creds ∨ (dn ++ ":" ++ pw) ∈ creds := by
  simp [and_or_left, exists_or]

/-- A (non-anonymous) bind is answered with success iff the wildcard or exactly `name:password`,
with the name as the service evaluated it, is configured — whatever the connection's state. -/
theorem C12_ldap_iff (creds : List String) (s : LdapSt) (dn pw : String) (h : ¬ (dn = "" ∧ pw = "")) :
    (ldapBind creds s dn pw).2 = resSuccess ↔ "*" ∈ creds ∨ (dn ++ ":" ++ pw) ∈ creds := by
  fun_cases ldapBind creds s dn pw with
  | case1 h0 => exact absurd h0 h
  | case2 _ hc => exact iff_of_true rfl (any_cred_iff.1 hc)
  | case3 _ hc => refine iff_of_false (fun h' => ?_) (mt any_cred_iff.2 hc); split at h' <;> cases h'

/-- … and a bind answered with success authenticates the connection. -/
theorem C12_ldap_authenticates (creds : List String) (s : LdapSt) (dn pw : String) (h : ¬ (dn = "" ∧ pw = ""))
    (hok : (ldapBind creds s dn pw).2 = resSuccess) : isLogin (ldapBind creds s dn pw).1 = true := by
  rw [ldapBind, if_neg h, if_pos (any_cred_iff.2 ((C12_ldap_iff creds s dn pw h).1 hok))]
  exact Bool.or_true _

/-- The result code does not depend on the connection's state (earlier attempts). -/
theorem C12_ldap_history_independent (creds : List String) (s s' : LdapSt) (dn pw : String) :
    (ldapBind creds s dn pw).2 = (ldapBind creds s' dn pw).2 := by
  simp only [ldapBind, apply_ite Prod.snd]

/-- Gated operations are refused until a bind has succeeded: after any sequence of failed
(non-anonymous or anonymous) binds on a fresh connection they are still refused. -/
theorem C12_ldap_gated (creds : List String) (attempts : List (String × String))
    (hfail : ∀ a ∈ attempts, ¬ ("*" ∈ creds ∨ (a.1 ++ ":" ++ a.2) ∈ creds)) :
    ldapGatedOp (attempts.foldl (fun s a => (ldapBind creds s a.1 a.2).1) LdapSt.init) = resUnwilling := by
  refine if_neg (ne_true_of_eq_false (List.foldlRecOn (motive := fun s => isLogin s = false) attempts _ rfl
    fun s hs a ha => ?_))
  fun_cases ldapBind creds s a.1 a.2 with
  | case1 => rfl
  | case2 _ hc => exact absurd (any_cred_iff.1 hc) (hfail a ha)
  | case3 => exact hs

/-- `PASS` logs in iff the pending user and the password are in the service's user table. -/
theorem C12_ftp_iff (s : FtpSt) (pw : String) (hp : pw ≠ "") (hcmd : ("PASS", false, true) ∈ HT.Gen.ftpCommands)
    (hfind : HT.Gen.ftpCommands.find? (fun c => c.1 = "PASS") = some ("PASS", false, true)) :
    (ftpStep s "PASS" pw).2 = 230 ↔ (s.reqUser = "anonymous" ∧ pw = "anonymous") := by
  simp [ftpStep, hfind, hp, ftpCheckPasswd]
  split <;> simp [*]

/-- Every file and directory command of the (regenerated) command table requires authentication. -/
theorem C12_ftp_table_gated :
    ∀ c ∈ ftpFileDirCommands, (HT.Gen.ftpCommands.find? (fun x => x.1 = c)).map (·.2.1) = some true := by
  decide

/-- The dispatcher refuses a command that requires authentication while nobody is logged in:
its `Execute` does not run (reply 530, or 553 when the required parameter is missing). -/
theorem C12_ftp_dispatch_gate (s : FtpSt) (cmd param : String) (rp : Bool) (hu : s.user = "")
    (hfind : HT.Gen.ftpCommands.find? (fun c => c.1 = cmd) = some (cmd, true, rp)) :
    (ftpStep s cmd param).2 = 530 ∨ (ftpStep s cmd param).2 = 553 := by
  unfold ftpStep
  rw [hfind]
  by_cases h : rp = true ∧ param = ""
  · simp [h]
  · simp [h, hu]

theorem ftpStep_state (s : FtpSt) (cmd param : String) :
    (ftpStep s cmd param).1 = s ∨ (ftpStep s cmd param).1 = { s with reqUser := param } ∨
      (ftpStep s cmd param).2 = 230 := by
  fun_cases ftpStep s cmd param <;> simp [*]

/-- The login state is changed by a successful `PASS` only: a step that does not answer 230
leaves `user` as it was. -/
theorem C12_ftp_login_only_by_pass (s : FtpSt) (cmd param : String) (h : (ftpStep s cmd param).2 ≠ 230) :
    (ftpStep s cmd param).1.user = s.user := by
  rcases ftpStep_state s cmd param with e | e | e
  · rw [e]
  · rw [e]
  · exact absurd e h

example : sshCheck [.malformed, .pair "root" "root", .wildcard] "x" "y" = true ∧
    sshCheck [.malformed, .pair "root" "root"] "x" "y" = false ∧ sshCheck [.pair "" "s"] "" "s" = true := by decide

example : ((ldapBind ["root:root"] LdapSt.init "root" "root").2, (ldapBind ["root:root"] LdapSt.init "root" "").2,
    (ldapBind ["root:root"] LdapSt.init "" "").2, (ldapBind ["*"] LdapSt.init "a" "b").2,
    (ldapBind [":s"] LdapSt.init "" "s").1.authenticated) = (0, 53, 0, 0, true) := by decide

end HT.Auth

/- OBLIGATIONS
HT.Auth.C12_ssh_iff
HT.Auth.C12_ssh_history_independent
HT.Auth.C12_ldap_iff
HT.Auth.C12_ldap_authenticates
HT.Auth.C12_ldap_history_independent
HT.Auth.C12_ldap_gated
HT.Auth.C12_ftp_iff
HT.Auth.C12_ftp_table_gated
HT.Auth.C12_ftp_dispatch_gate
HT.Auth.C12_ftp_login_only_by_pass
-/

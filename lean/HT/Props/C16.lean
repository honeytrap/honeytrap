import HT.Lemmas.Agent
/-!
# C16 — the agent tunnel relays each remote connection's bytes in order, to it alone

For every sequence of agent protocol messages on an agent session, each announced remote
connection is surfaced to the services with the announced local and remote addresses; the bytes
of its data messages reach the service in order, exactly once and only on that connection; […]
an end-of-stream message or the agent disconnecting ends exactly the affected connections.
Every protocol message decodes to what was encoded.

The session model here is sequential.  The hand-off between the session goroutine and a service's
reader (signal without blocking, buffer first on wake-up) is the part a schedule could break: that
the reader gets the bytes under every schedule of the two is `C16_handoff_delivers` in
`HT.Props.C16Write`, on the two-thread model of `HT.Model.Handoff`.  That the implementation has that
shape, and the buffered-bytes-at-EOF case repaired by a `fix:` commit, are left to the correspondence
runs (partial, see DESIGN.md).
-/
namespace HT.Agent

def Msg.wf : Msg → Prop
  | .hello l r => l.wf ∧ r.wf
  | .data l r p => l.wf ∧ r.wf ∧ p.length < 65536
  | .dgram l r p => l.wf ∧ r.wf ∧ p.length < 65536
  | .eof l r => l.wf ∧ r.wf
  | .ping => True

/-- with trailing bytes, so that the field lemmas apply as they stand -/
theorem decBody_encBody (m : Msg) (h : m.wf) (rest : Bytes) :
    decBody (typeByte m).toNat (encBody m ++ rest) = some m := by
  cases m with
  | ping => rfl
  | hello l r | eof l r =>
    simp [encBody, decBody, typeByte, decAddr_encAddr _ _ h.1, decAddr_encAddr _ _ h.2]
  | data l r p | dgram l r p =>
    simp [encBody, decBody, typeByte, decAddr_encAddr _ _ h.1, decAddr_encAddr _ _ h.2.1,
      decData_encData _ _ h.2.2]

/-- Every protocol message decodes to what was encoded: all message types, IPv4 and IPv6 (any
address length), every port, every payload length that fits the 16-bit length field. -/
theorem C16_codec_roundtrip (m : Msg) (h : m.wf) : decBody (typeByte m).toNat (encBody m) = some m := by
  rw [← List.append_nil (encBody m)]; exact decBody_encBody m h []

/-- … and a frame is parsed off the stream exactly, leaving the following frames untouched. -/
theorem C16_frame_roundtrip (m : Msg) (rest : Bytes) (h : m.wf) (hl : (encBody m).length < 65536) :
    decFrame (frame m ++ rest) = some (m, rest) := by
  simp only [frame, List.cons_append, decFrame, List.append_assoc]
  rw [dec16_enc16 _ hl]
  simp [C16_codec_roundtrip m h]

def Hs.wf (h : Hs) : Prop :=
  h.ver < 65536 ∧ h.version.length < 65536 ∧ h.short.length < 65536 ∧ h.commit.length < 65536 ∧ h.token.length < 65536

/-- `Handshake` (protocol version, version, short and long commit id, token): decodes to what was encoded for
strings of every length the 16-bit length field can carry. -/
theorem C16_handshake_roundtrip (h : Hs) (hw : h.wf) : decHs (encHs h) = some h := by
  obtain ⟨h0, h1, h2, h3, h4⟩ := hw
  have ht := List.append_nil _ ▸ decData_encData h.token [] h4
  simp only [decHs, encHs, dec16_enc16 _ h0, decData_encData _ _ h1, decData_encData _ _ h2,
    decData_encData _ _ h3, ht]

theorem decAddrs_encAddrs (as : List AAddr) (h : ∀ a ∈ as, a.wf) : decAddrs as.length (encAddrs as) = some as := by
  induction as with
  | nil => rfl
  | cons a as ih =>
    rw [List.forall_mem_cons] at h
    rw [List.length_cons, encAddrs, decAddrs, decAddr_encAddr a _ h.1]
    exact congrArg (Option.map (a :: ·)) (ih h.2)

/-- `HandshakeResponse` (the addresses the agent is to listen on): any list the count byte can carry. -/
theorem C16_handshake_response_roundtrip (as : List AAddr) (hn : as.length < 256) (hw : ∀ a ∈ as, a.wf) :
    decResp (encResp as) = some as := by
  unfold decResp encResp
  simp only [UInt8.toNat_ofNat_of_lt' hn]
  exact decAddrs_encAddrs as hw

theorem step_filter (s : List VConn) (l r : AAddr) (m : Msg) :
    (step s m).filter (pairOf l r) =
      bif about l r m then step (s.filter (pairOf l r)) m else s.filter (pairOf l r) := by
  cases m with
  | ping => rfl
  | hello l' r' | dgram l' r' p => exact filter_snoc ..
  | data l' r' p | eof l' r' =>
    apply updFirst_filter
    · exact fun c hc => pairOf_of_hits hc l r
    · exact fun _ => rfl

/-- Demultiplexing is exact: after any message sequence — any interleaving of any number of
connections' messages — what the connections of an address pair have received (and whether they
have ended) is what the messages carrying that pair's addresses alone produce, in their order. -/
theorem C16_demux_exact (l r : AAddr) (ms : List Msg) : ∀ (s : List VConn),
    (run s ms).filter (pairOf l r) = run (s.filter (pairOf l r)) (ms.filter (about l r)) := by
  induction ms with
  | nil => intro s; rfl
  | cons m ms ih =>
    intro s
    rw [run, List.foldl_cons, ← run, ih, step_filter, List.filter_cons]
    cases about l r m <;> rfl

/-- An end-of-stream message touches no connection of an address pair it is not about. -/
theorem C16_eof_ends_exactly (s : List VConn) (l r l' r' : AAddr) (h : about l' r' (.eof l r) = false) :
    (step s (.eof l r)).filter (pairOf l' r') = s.filter (pairOf l' r') := by
  rw [step_filter, h]; rfl

/-- The agent disconnecting ends every connection. -/
theorem C16_disconnect_ends_all (s : List VConn) : ∀ c ∈ disconnect s, c.closed = true := by
  intro c hc
  simp only [disconnect, List.mem_map] at hc
  obtain ⟨x, _, rfl⟩ := hc
  rfl

/-- non-vacuity: two interleaved connections and stray data -/
example :
    let a : AAddr := ⟨false, [10, 0, 0, 1], 22⟩
    let b : AAddr := ⟨false, [1, 2, 3, 4], 40000⟩
    let c : AAddr := ⟨false, [1, 2, 3, 4], 40001⟩
    (run [] [.hello a b, .data a c [9], .hello a c, .data a b [1, 2], .data a c [7], .eof a b, .data a b [3]]).map
      (fun v => (v.buf, v.closed)) = [([1, 2], true), ([7], false)] := by decide

example : (Msg.data ⟨false, [10, 0, 0, 1], 22⟩ ⟨true, List.replicate 16 1, 65535⟩ [1, 2, 3]).wf := by
  unfold Msg.wf AAddr.wf; decide

end HT.Agent

/- OBLIGATIONS
HT.Agent.C16_codec_roundtrip
HT.Agent.C16_frame_roundtrip
HT.Agent.C16_handshake_roundtrip
HT.Agent.C16_handshake_response_roundtrip
HT.Agent.C16_demux_exact
HT.Agent.C16_eof_ends_exactly
HT.Agent.C16_disconnect_ends_all
-/

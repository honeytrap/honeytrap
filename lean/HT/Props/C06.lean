import HT.Lemmas.Server
/-!
# C06 — every event reaches exactly the channels whose filters admit it

An event put on the bus is delivered, in sending order, to each configured channel
once for every filter that names the channel and admits the event — a filter admits
an event when any one of its category expressions matches the event's category and
any one of its service expressions matches its service, an absent list admitting
everything — and to no other channel.  What one channel receives does not depend on
which other channels or filters are configured.

Regular-expression matching is a parameter `rx` (Go's `regexp`, trusted).  The sensor
token is attached by the innermost wrapper of every subscription; the correspondence
oracle checks it on every delivered event.
-/
namespace HT.Srv

/-- the specification: per event, per filter (in configuration order), one copy for every
time the filter names the channel — if the filter admits the event -/
def deliveriesSpec (rx : String → String → Bool) (fs : List Filter) (es : List Ev) (ch : String) : List Ev :=
  es.flatMap fun e => fs.flatMap fun f =>
    if admits rx f e then List.replicate (f.channels.count ch) e else []

/-- Exactly those deliveries, in exactly that order, for every configuration and event stream. -/
theorem C06_delivery_exact (rx : String → String → Bool) (defined : List String) (fs : List Filter)
    (es : List Ev) (ch : String) (hd : defined.contains ch = true) :
    received (sendAll rx (wire defined fs) es) ch = deliveriesSpec rx fs es ch := by
  simp only [received_sendAll_wire, hd, Bool.and_true, deliveriesSpec]

/-- A channel that is not configured receives nothing. -/
theorem C06_no_other_channel (rx : String → String → Bool) (defined : List String) (fs : List Filter)
    (es : List Ev) (ch : String) (hd : defined.contains ch = false) :
    received (sendAll rx (wire defined fs) es) ch = [] := by
  simp only [received_sendAll_wire, hd, Bool.and_false, Bool.false_eq_true, if_false,
    List.flatMap_eq_nil_iff, implies_true]

/-- A filter that configures neither categories nor services passes every event (a key absent
from the configuration leaves its list empty). -/
theorem C06_absent_lists_admit (rx : String → String → Bool) (f : Filter) (e : Ev)
    (hc : f.categories = []) (hs : f.services = []) : admits rx f e = true := by
  simp [admits, hc, hs]

/-- Independence: what a channel receives is the same with all filters that do not name it
removed — and therefore does not depend on them, nor on which other channels exist. -/
theorem C06_independence (rx : String → String → Bool) (defined defined' : List String)
    (fs : List Filter) (es : List Ev) (ch : String)
    (hd : defined.contains ch = true) (hd' : defined'.contains ch = true) :
    received (sendAll rx (wire defined fs) es) ch =
      received (sendAll rx (wire defined' (fs.filter (fun f => decide (ch ∈ f.channels)))) es) ch := by
  simp only [received_sendAll_wire, hd, hd']
  congr 1
  funext e
  -- a filter that does not name `ch` contributes `replicate 0 e`
  exact (flatMap_filter_of_nil fun f hf => by
    rw [List.count_eq_zero.mpr (of_decide_eq_false hf), List.replicate_zero, ite_self]).symm

/-- non-vacuity: two channels, three filters (one naming a channel twice, one an unknown channel) -/
example :
    let fs : List Filter := [⟨["c1", "c2"], [], ["ssh"]⟩, ⟨["c2", "c9", "c2"], ["nomatch"], []⟩, ⟨["c1"], [""], []⟩]
    let es : List Ev := [⟨"1", "ssh", "ssh"⟩, ⟨"2", "x", "ftp"⟩, ⟨"3", "", ""⟩]
    let rx : String → String → Bool := fun r v => r == v
    ((received (sendAll rx (wire ["c1", "c2"] fs) es) "c1").map (·.id),
     (received (sendAll rx (wire ["c1", "c2"] fs) es) "c2").map (·.id)) =
      (["1", "3"], ["1"]) := by decide

end HT.Srv

/- OBLIGATIONS
HT.Srv.C06_delivery_exact
HT.Srv.C06_no_other_channel
HT.Srv.C06_absent_lists_admit
HT.Srv.C06_independence
-/

import HT.Props.C04ChunkedOnce
/-!
# C04 — http requests with chunked bodies: exactly one event per request

Any sequence of HTTP/1.1 requests whose bodies are sent chunked — any headers other than Content-Length and
Transfer-Encoding, any chunking of any body — pipelined or not, in any segmentation, yields exactly one event per
request, in order, carrying method, target and the first 1024 bytes of the decoded body.
-/
namespace HT.Relay
open HT.Seg HT.Proto

/-- "Transfer-Encoding" -/
def bTransferEncoding : Bytes := [84, 114, 97, 110, 115, 102, 101, 114, 45, 69, 110, 99, 111, 100, 105, 110, 103]

def teLine : Bytes := bTransferEncoding ++ colon :: sp :: vChunked

structure HRqC where
  m : Bytes
  t : Bytes
  hdrs : List (Bytes × Bytes)
  chunks : List Bytes

def hdrOkC (nv : Bytes × Bytes) : Prop := hdrOk nv ∧ nv.1.map lower ≠ nTransferEncoding

def HRqC.ok (q : HRqC) : Prop :=
  q.m ≠ [] ∧ sp ∉ q.m ∧ lf ∉ q.m ∧ sp ∉ q.t ∧ lf ∉ q.t ∧ (∀ h ∈ q.hdrs, hdrOkC h) ∧ (∀ c ∈ q.chunks, c ≠ [])

def HRqC.lines (q : HRqC) : List Bytes :=
  (q.m ++ sp :: (q.t ++ sp :: vHTTP11)) :: (q.hdrs.map hdrLine ++ [teLine])

def HRqC.bytes (q : HRqC) : Bytes := renderLines' q.lines ++ [cr, lf] ++ renderChunks q.chunks

theorem headerValue_te (hs : List (Bytes × Bytes)) (h : ∀ x ∈ hs, hdrOkC x) :
    headerValue nTransferEncoding (hs.map hdrLine ++ [teLine]) = some vChunked := by
  rw [teLine, headerValue_last nTransferEncoding bTransferEncoding _ hs (fun x hx => ⟨(h x hx).1.2.1, (h x hx).2⟩)
    (by decide) (by decide)]
  decide

theorem httpHeadC_render (q : HRqC) (h : q.ok) (rest : Bytes) :
    httpHeadC (renderLines' q.lines ++ cr :: lf :: rest) = some (some (q.m, q.t, .chunks), rest) := by
  obtain ⟨_, hm, hml, ht, htl, hh, _⟩ := h
  have hlines := reqLines_ok q.m q.t vHTTP11 q.hdrs [teLine] hml htl (by decide)
    (fun x hx => ⟨(hh x hx).1.2.2.1, (hh x hx).1.2.2.2.1⟩)
    (fun l hl => by rw [List.mem_singleton.mp hl]; exact ⟨by decide, by decide⟩)
  rw [httpHeadC, head_render _ q.lines hlines rest]
  simp [pureP, headInfoC, HRqC.lines, splitOn_three q.m q.t vHTTP11 hm ht (by decide), headerValue_te q.hdrs hh,
    show vChunked.map lower = vChunked by decide]

def httpReqEvC (q : HRqC) : Ev := httpEv q.m q.t q.chunks.flatten

theorem http_reqC (q : HRqC) (h : q.ok) (rest : Bytes) :
    Steps httpSvcC .open (q.bytes ++ rest) [httpReqEvC q] .open rest := by
  have e : q.bytes ++ rest = renderLines' q.lines ++ cr :: lf :: (renderChunks q.chunks ++ rest) := by
    simp [HRqC.bytes]
  rw [e]
  refine (Steps.one (ev := []) (s' := .chunk q.m q.t) (r := renderChunks q.chunks ++ rest) ?_).trans (.one ?_)
  · simp only [httpSvcC, httpCNext, bindP, httpHeadC_render q h, pureP]
  · simp only [httpSvcC, httpCNext, bindP, C04_chunked_decodes_what_was_encoded q.chunks h.2.2.2.2.2.2 rest, pureP,
      httpReqEvC]

/-- http, chunked: any sequence of requests, any chunking of any body, pipelined or not, in any segmentation: exactly
one event per request, in order, with method, target and the first 1024 bytes of the decoded body. -/
theorem C04_http_chunked_exactly_once (qs : List HRqC) (h : ∀ q ∈ qs, q.ok)
    (segs : List Bytes) (hs : segs.flatten = qs.flatMap HRqC.bytes) :
    eventsOf httpSvcC .open segs = qs.map httpReqEvC := by
  have := eventsOf_eq_of_steps_all httpSvcC httpSvcC_framed
    (Steps.map HRqC.bytes httpReqEvC .open qs (fun q hq => http_reqC q (h q hq)) []) segs (by simpa using hs)
  simpa [httpSvcC, httpCFinish] using this

/-- the hypotheses are satisfiable: POST /u with one header and two chunks -/
example : (HRqC.ok { m := [80, 79, 83, 84], t := [47, 117], hdrs := [([72, 111, 115, 116], [104])], chunks := [[87, 105], [107]] }) := by
  refine ⟨by decide, by decide, by decide, by decide, by decide, ?_, ?_⟩
  · intro x hx
    simp only [List.mem_singleton] at hx
    subst hx
    exact ⟨⟨by decide, by decide, by decide, by decide, by decide⟩, by decide⟩
  · intro c hc
    simp only [List.mem_cons, List.mem_singleton] at hc
    rcases hc with rfl | rfl | hc
    · decide
    · decide
    · simp at hc

end HT.Relay

/- OBLIGATIONS
HT.Relay.C04_http_chunked_exactly_once
-/

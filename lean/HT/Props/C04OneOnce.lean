import HT.Props.C04HttpOnce
/-!
# C04 — the one-request services: the request is reported exactly once

elasticsearch, docker, eos, ethereum, cwmp (any configuration of the one-request machine): a connection that carries
one well-formed request — any headers other than Content-Length, any body — yields, in every segmentation, exactly
the report the configuration prescribes: one event with method, target and the recorded part of the body, or none
where the service reports nothing (no body where one is required, not a POST where only POSTs are read).
-/
namespace HT.Relay
open HT.Seg HT.Proto

/-- what the service reports for a request -/
def oneExpected (c : OneCfg) (q : HRq) : List Ev :=
  if q.body.isEmpty then (if c.needBody then [] else oneEvs c q.m q.t []) else oneEvs c q.m q.t q.body

theorem one_req (c : OneCfg) (q : HRq) (h : q.ok) : Steps (oneSvc c) .open q.bytes (oneExpected c q) .closed [] := by
  have := req_steps (p := oneSvc c) (fun _ => rfl) (fun _ _ _ _ => rfl) q h []
  rw [List.append_nil] at this
  unfold oneExpected
  split at this
  · rename_i hb; simpa [hb] using this
  · rename_i hb; simpa [hb] using this

/-- One request per connection, any segmentation: exactly the prescribed report. -/
theorem C04_onerequest_exactly_once (c : OneCfg) (q : HRq) (h : q.ok)
    (segs : List Bytes) (hs : segs.flatten = q.bytes) :
    eventsOf (oneSvc c) .open segs = oneExpected c q := by
  have := eventsOf_eq_of_steps_all (oneSvc c) (oneSvc_framed c) (one_req c q h) segs hs
  simpa [oneSvc, oneFinish] using this

end HT.Relay

/- OBLIGATIONS
HT.Relay.C04_onerequest_exactly_once
-/

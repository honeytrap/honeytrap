import HT.Lemmas.Release
/-!
# C09 — handlers finish and release everything once the peer is gone

Statement (properties.jsonl): after a client disconnects, its datagram has been consumed, or it has
stayed silent for the idle timeout, the handler returns within a bounded time for every possible
input, and every goroutine, listening socket and descriptor created on the connection's behalf is
released; after N sequential connections the process holds the same as before them.

What is proved here is the logic the runtime observations rest on: the read loop over a datagram
connection ends after a bounded number of reads for every datagram and buffer size (and never did
with the connection as it was), and the ledger of what an ftp or smtp session acquires is balanced
for every command sequence and every history of sessions (and was not).  That the real handlers
follow these models — and the services that have no model here — is decided by the runs of the
check (time to return, goroutines by creating function, descriptors).
-/
namespace HT.Rel

/-- For every datagram length and every buffer size > 0 the loop makes at most `left + 1` reads and ends. -/
theorem C09_udp_loop_ends (chunk : Nat) (hc : 0 < chunk) :
    ∀ (fuel left : Nat), left + 1 ≤ fuel → ∃ k, readLoop readNew chunk fuel left = some k ∧ k ≤ left + 1 := by
  intro fuel
  induction fuel with
  | zero => intro left h; omega
  | succ f ih =>
    intro left h
    by_cases h0 : left = 0
    · exact ⟨1, by simp [readLoop, readNew, h0], by omega⟩
    · have hlt : left - min left chunk < left :=
        Nat.sub_lt (Nat.pos_of_ne_zero h0) (Nat.lt_min.2 ⟨Nat.pos_of_ne_zero h0, hc⟩)
      obtain ⟨k, hk, hle⟩ := ih _ (Nat.le_trans hlt (Nat.le_of_succ_le_succ h))
      exact ⟨k + 1, by simp [readLoop, readNew, h0, hk], Nat.succ_le_succ (Nat.le_trans hle hlt)⟩

/-- … and a datagram that fits one buffer takes exactly two reads: one for the data, one for the end of stream. -/
theorem C09_udp_loop_count_small (chunk : Nat) (left : Nat) (h : left ≤ chunk) (h0 : 0 < left) :
    readLoop readNew chunk 3 left = some 2 := by
  simp [readLoop, readNew, Nat.ne_of_gt h0, Nat.min_eq_left h]

/-- As it was: the connection never reported an end, so for every datagram, buffer size and amount
of fuel the loop is still running. -/
theorem C09_counterexample_udp_never_ends (chunk : Nat) :
    ∀ (fuel left : Nat), readLoop readOld chunk fuel left = none := by
  intro fuel left
  fun_induction readLoop readOld chunk fuel left with
  | case1 => rfl
  | case2 _ _ _ x => unfold readOld at x; split at x <;> cases x
  | case3 _ _ _ _ _ _ ih => rw [ih]; rfl

/-- **Every ftp session is balanced**: whatever the client sends — any number of passive-mode
requests, connected to or not, transfers, anything else, in any order — when the session ends every
goroutine and listening socket opened on its behalf has been released. -/
theorem C09_ftp_session_releases (cmds : List FCmd) : held (ftpSession cmds) = Held.zero := by
  rw [ftpSession, held_append, List.append_assoc, held_append, ftpCmds_then_close]; rfl

/-- while the session runs it holds at most its reporter, one pending acceptor and one passive port -/
theorem C09_ftp_bounded_during (cmds : List FCmd) :
    (held ([Op.spawn] ++ (ftpCmds .none cmds).1)).goroutines ≤ 2 ∧
    (held ([Op.spawn] ++ (ftpCmds .none cmds).1)).listeners ≤ 1 := by
  have h : held (_ ++ _) = Held.zero := ftpCmds_then_close cmds .none
  rw [held_append] at h ⊢
  generalize (ftpCmds .none cmds).2 = d at h
  have g := congrArg Held.goroutines h
  have l := congrArg Held.listeners h
  cases d <;> simp [Held.add, held, apply, Held.zero, closeSock] at g l ⊢ <;> omega

/-- histories: any number of sessions, each balanced, leave nothing behind -/
theorem C09_history_releases (sessions : List (List Op)) (h : ∀ s ∈ sessions, held s = Held.zero) :
    held sessions.flatten = Held.zero := by
  induction sessions with
  | nil => rfl
  | cons s ss ih =>
    rw [List.flatten_cons, held_append, h s List.mem_cons_self, ih fun x hx => h x (List.mem_cons_of_mem _ hx)]
    rfl

theorem C09_ftp_history_releases (sessions : List (List FCmd)) :
    held (sessions.map ftpSession).flatten = Held.zero :=
  C09_history_releases _ fun s hs => by
    obtain ⟨cmds, _, rfl⟩ := List.mem_map.mp hs
    exact C09_ftp_session_releases cmds

theorem C09_smtp_session_releases (n : Nat) : held (smtpSession n) = Held.zero := rfl

/-- As it was: a session that asks for `k` passive ports without using them leaves `k` listening
sockets and `k + 1` goroutines behind — without bound. -/
theorem C09_counterexample_ftp_leak (k : Nat) :
    held (ftpSessionOld (List.replicate k .pasv)) = { goroutines := k + 1, listeners := k } := by
  rw [ftpSessionOld, held_append, ftpCmdsOld_pasv]
  simp [held, apply, Held.add, Held.zero, Int.add_comm]

theorem C09_counterexample_smtp_leak (n : Nat) : held (smtpSessionOld n) = { goroutines := 1, listeners := 0 } := rfl

example : held (ftpSession [.pasv, .pasv, .connect, .transfer, .pasv, .other]) = Held.zero := by decide
example : readLoop readNew 512 10 1400 = some 4 := by decide

end HT.Rel

/- OBLIGATIONS
HT.Rel.C09_udp_loop_ends
HT.Rel.C09_udp_loop_count_small
HT.Rel.C09_counterexample_udp_never_ends
HT.Rel.C09_ftp_session_releases
HT.Rel.C09_ftp_bounded_during
HT.Rel.C09_history_releases
HT.Rel.C09_ftp_history_releases
HT.Rel.C09_smtp_session_releases
HT.Rel.C09_counterexample_ftp_leak
HT.Rel.C09_counterexample_smtp_leak
-/

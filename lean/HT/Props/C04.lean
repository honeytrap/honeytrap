import HT.Lemmas.Proto
/-!
# C04 — every client command is captured exactly once, however the stream is segmented

The property theorems and the vocabulary they are stated in (the units a client sends, their wire form, the
events expected for them); the lemmas are in `HT.Lemmas.Seg` and `HT.Lemmas.Proto`.

Statement (properties.jsonl): for the line- and message-oriented services, each complete command a
client sends produces exactly one corresponding event carrying that command's decoded fields, in
the order sent; the set and order of events does not depend on how the client's byte stream is split
into segments, nor on whether several requests are pipelined in one write.
-/
namespace HT.Seg

variable {S E : Type}

/-- **Segmentation independence**, for every framing machine whose unit parser is monotone and
progresses: any segmentation of a byte stream — any number of segments, any cut points, empty
segments included — yields the events of the same bytes delivered in one piece (`runSegs_eq_feed`
gives the protocol state and the unconsumed bytes as well). -/
theorem C04_segmentation_independence (p : Proto S E) (hm : ∀ s, Mono (p.next s)) (hp : ∀ s, Progress (p.next s))
    (s0 : S) (segs : List Bytes) :
    eventsOf p s0 segs = eventsOf p s0 [segs.flatten] :=
  any_two_segmentations p (fun s => .of_progress (hm s) (hp s)) s0 segs [segs.flatten] (by simp)

/-- two segmentations of the same bytes cannot be told apart -/
theorem C04_any_two_segmentations (p : Proto S E) (hm : ∀ s, Mono (p.next s)) (hp : ∀ s, Progress (p.next s))
    (s0 : S) (segs segs' : List Bytes) (h : segs.flatten = segs'.flatten) :
    eventsOf p s0 segs = eventsOf p s0 segs' :=
  any_two_segmentations p (fun s => .of_progress (hm s) (hp s)) s0 segs segs' h

end HT.Seg

namespace HT.Proto
open HT.Seg

theorem C04_ftp_segmentation (segs segs' : List Bytes) (h : segs.flatten = segs'.flatten) :
    eventsOf ftp false segs = eventsOf ftp false segs' :=
  any_two_segmentations ftp ftp_framed false segs segs' h

theorem C04_telnet_segmentation (segs segs' : List Bytes) (h : segs.flatten = segs'.flatten) :
    eventsOf telnet .user segs = eventsOf telnet .user segs' :=
  any_two_segmentations telnet telnet_framed .user segs segs' h

theorem C04_memcached_segmentation (segs segs' : List Bytes) (h : segs.flatten = segs'.flatten) :
    eventsOf memcached .idle segs = eventsOf memcached .idle segs' :=
  any_two_segmentations memcached memcached_framed .idle segs segs' h

theorem C04_redis_segmentation (segs segs' : List Bytes) (h : segs.flatten = segs'.flatten) :
    eventsOf redis false segs = eventsOf redis false segs' :=
  any_two_segmentations redis redis_framed false segs segs' h

theorem C04_smtp_segmentation (segs segs' : List Bytes) (h : segs.flatten = segs'.flatten) :
    eventsOf smtp smtpInit segs = eventsOf smtp smtpInit segs' :=
  any_two_segmentations smtp smtp_framed smtpInit segs segs' h

/-- the bytes of a sequence of command lines, each terminated by LF (a CR before it belongs to the line) -/
def renderLines (cmds : List Bytes) : Bytes := cmds.flatMap (fun c => c ++ [lf])

def ftpEv (c : Bytes) : Ev := { kind := "ftp", fields := [trimCRLF (c ++ [lf])] }

theorem ftp_line (c rest : Bytes) (h : lf ∉ c) :
    Steps ftp false (c ++ [lf] ++ rest) [ftpEv c] (ftpIsQuit (c ++ [lf])) rest := by
  simpa [ftpEv] using steps_line (p := ftp) (s := false) rfl c rest h

theorem ftp_lines (cmds : List Bytes) (h : ∀ c ∈ cmds, lf ∉ c ∧ ftpIsQuit (c ++ [lf]) = false) (rest : Bytes) :
    Steps ftp false (renderLines cmds ++ rest) (cmds.map ftpEv) false rest :=
  Steps.map (fun c => c ++ [lf]) ftpEv false cmds (fun c hc rest => (h c hc).2 ▸ ftp_line c rest (h c hc).1) rest

/-- ftp: any number of command lines (none of them QUIT), in any segmentation: exactly one event per
line, in order, carrying the line without its terminator. -/
theorem C04_ftp_exactly_once (cmds : List Bytes) (h : ∀ c ∈ cmds, lf ∉ c ∧ ftpIsQuit (c ++ [lf]) = false)
    (segs : List Bytes) (hs : segs.flatten = renderLines cmds) :
    eventsOf ftp false segs = cmds.map ftpEv := by
  have := eventsOf_eq_of_steps_all ftp ftp_framed (ftp_lines cmds h []) segs (by simpa using hs)
  simpa [ftp] using this

/-- ftp: QUIT is reported and ends the session — nothing after it is. -/
theorem C04_ftp_quit_ends (cmds : List Bytes) (h : ∀ c ∈ cmds, lf ∉ c ∧ ftpIsQuit (c ++ [lf]) = false)
    (q : Bytes) (hq : lf ∉ q ∧ ftpIsQuit (q ++ [lf]) = true) (after : Bytes)
    (segs : List Bytes) (hs : segs.flatten = renderLines cmds ++ (q ++ lf :: after)) :
    eventsOf ftp false segs = cmds.map ftpEv ++ [ftpEv q] := by
  have hsteps := (ftp_lines cmds h _).trans (hq.2 ▸ ftp_line q after hq.1)
  have := eventsOf_eq_of_steps ftp ftp_framed hsteps rfl segs (by simpa using hs)
  simpa [ftp] using this

def telnetCmdEv (c : Bytes) : Ev := { kind := "telnet-cmd", fields := [telnetClean (c ++ [lf])] }

/-- telnet: the first two lines are reported once as the login attempt, every later line once as a
command, in order, in any segmentation (fields: the printable characters of the line). -/
theorem C04_telnet_exactly_once (u p : Bytes) (cmds : List Bytes) (hu : lf ∉ u) (hpw : lf ∉ p) (h : ∀ c ∈ cmds, lf ∉ c)
    (segs : List Bytes) (hs : segs.flatten = (u ++ lf :: (p ++ lf :: renderLines cmds))) :
    eventsOf telnet .user segs =
      { kind := "telnet-auth", fields := [telnetClean (u ++ [lf]), telnetClean (p ++ [lf])] } :: cmds.map telnetCmdEv := by
  have h3 : Steps telnet .session (renderLines cmds ++ []) (cmds.map telnetCmdEv) .session [] :=
    Steps.map (fun c => c ++ [lf]) telnetCmdEv TSt.session cmds
      (fun c hc rest => by simpa [telnetCmdEv] using steps_line (p := telnet) (s := .session) rfl c rest (h c hc)) []
  have := eventsOf_eq_of_steps_all telnet telnet_framed
    (((steps_line (s := .user) rfl u _ hu).trans (steps_line (s := TSt.pass _) rfl p _ hpw)).trans (by simpa using h3))
    segs hs
  simpa [telnet] using this

/-- a unit of the memcached stream: a command line, and for a storage command its data block
(value and the two terminator bytes) -/
structure MUnit where
  l : Bytes                  -- the command line without LF
  block : Option Bytes       -- the data block of a storage command

def MUnit.bytes (u : MUnit) : Bytes := u.l ++ [lf] ++ (u.block.getD [])

def mcCmdEv (l : Bytes) : Ev := { kind := "mc-cmd", fields := [stripEOL (l ++ [lf])] }

/-- the events a unit must produce: one for the command line; for a storage command one more, with
key, flags, expiry, size and the first 80 bytes of the value -/
def MUnit.events (u : MUnit) : List Ev :=
  match u.block, (mcAfterLine (u.l ++ [lf])).2 with
  | some blk, .block cmd key flags exp bytes count =>
    [mcCmdEv u.l, { kind := "mc-store", fields := [cmd, key, flags, exp, bytes, blk.take (min count 80)] }]
  | _, _ => [mcCmdEv u.l]

/-- the unit is well formed: no LF inside the line; a plain command has no block; a storage command
has a block of exactly the announced size plus terminator -/
def MUnit.ok (u : MUnit) : Bool :=
  !u.l.contains lf &&
  match u.block, (mcAfterLine (u.l ++ [lf])).2 with
  | none, .idle => true
  | some blk, .block _ _ _ _ _ count => blk.length == count + 2
  | _, _ => false

theorem mcAfterLine_ev (l : Bytes) : (mcAfterLine l).1 = [{ kind := "mc-cmd", fields := [stripEOL l] }] := by
  fun_cases mcAfterLine l <;> rfl

theorem memcached_unit (u : MUnit) (h : u.ok = true) (rest : Bytes) :
    Steps memcached .idle (u.bytes ++ rest) u.events .idle rest := by
  simp only [MUnit.ok, Bool.and_eq_true, Bool.not_eq_true', List.contains_eq_mem, decide_eq_false_iff_not] at h
  obtain ⟨hlf, hk⟩ := h
  have h1 : Steps memcached .idle (u.bytes ++ rest) [mcCmdEv u.l] (mcAfterLine (u.l ++ [lf])).2
      (u.block.getD [] ++ rest) := by
    simpa [MUnit.bytes, mcAfterLine_ev, mcCmdEv] using
      steps_line (p := memcached) (s := .idle) rfl u.l (u.block.getD [] ++ rest) hlf
  unfold MUnit.events
  split at hk
  · rename_i hb hst
    simpa [hb, hst] using h1
  · rename_i blk _ _ _ _ _ count hb hst
    rw [hb, hst] at h1 ⊢
    refine h1.trans (.one ?_)
    show bindP (takeN (count + 2)) _ _ = _
    simp [bindP, (takeN_eq_some _ _ _ _).mpr ⟨beq_iff_eq.mp hk, rfl⟩, pureP]
  · cases hk

/-- memcached: any sequence of plain and storage commands, pipelined or not, in any segmentation:
one command event per command line, and for each storage command exactly one storage event with
the first 80 bytes of its value — whatever the value contains and wherever the stream is cut. -/
theorem C04_memcached_exactly_once (us : List MUnit) (h : ∀ u ∈ us, u.ok = true)
    (segs : List Bytes) (hs : segs.flatten = us.flatMap MUnit.bytes) :
    eventsOf memcached .idle segs = us.flatMap MUnit.events := by
  have := eventsOf_eq_of_steps_all memcached memcached_framed
    (Steps.flatMap MUnit.bytes MUnit.events .idle us (fun u hu => memcached_unit u (h u hu)) []) segs
    (by simpa using hs)
  simpa [memcached] using this

example : ftpIsQuit [85, 83, 69, 82, 32, 97, 13, 10] = false ∧ ftpIsQuit [113, 117, 105, 116, 13, 10] = true := by decide

/-- "set k 0 0 3" with the 3-byte value "\ng\n": a well-formed storage unit whose value contains line ends -/
example : (⟨[115, 101, 116, 32, 107, 32, 48, 32, 48, 32, 51, 13], some [10, 103, 10, 13, 10]⟩ : MUnit).ok = true := by decide

example : eventsOf ftp false [[78, 79], [79, 80, 13, 10, 81], [85, 73, 84, 10, 88, 10]]
    = [{ kind := "ftp", fields := [[78, 79, 79, 80]] }, { kind := "ftp", fields := [[81, 85, 73, 84]] }] := by decide

end HT.Proto

/- OBLIGATIONS
HT.Seg.C04_segmentation_independence
HT.Seg.C04_any_two_segmentations
HT.Proto.C04_ftp_segmentation
HT.Proto.C04_telnet_segmentation
HT.Proto.C04_memcached_segmentation
HT.Proto.C04_redis_segmentation
HT.Proto.C04_smtp_segmentation
HT.Proto.C04_ftp_exactly_once
HT.Proto.C04_ftp_quit_ends
HT.Proto.C04_telnet_exactly_once
HT.Proto.C04_memcached_exactly_once
-/

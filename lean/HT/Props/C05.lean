import HT.Lemmas.Event
/-!
# C05 — recorded payloads are byte-exact and every emitted event serialises

For any bytes received from a client, the event's hexadecimal payload field decodes to
exactly those bytes and its length field equals their count; addresses and ports
recorded from a connection equal the connection's.  […] the JSON contains every key
stored in the event; merging key-value data into an event keeps the keys it already
has, whereas copying overwrites them.

JSON serialisability of the value types the services store is checked by the
correspondence run (every captured event is marshalled with both channel code paths);
`encoding/json` itself is not modelled.
-/
namespace HT.Ev

/-- The hexadecimal field decodes to exactly the bytes received — every byte string, any length,
any content (invalid UTF-8, NUL, control bytes). -/
theorem C05_hex_roundtrip (bs : Bytes) : hexDecode (hexEncode bs) = some bs := by
  induction bs with
  | nil => rfl
  | cons b bs ih =>
    have hb : b.toNat < 16 * 16 := b.toNat_lt
    rw [hexEncode, hexDecode, ih, nib_roundtrip _ (Nat.div_lt_of_lt_mul hb), nib_roundtrip _ (Nat.mod_lt _ (by decide))]
    simp only [Nat.div_add_mod', UInt8.ofNat_toNat]

/-- `payload-hex` decodes to the data, `payload-length` is its length. -/
theorem C05_payload_exact (e : Event) (data : Bytes) :
    (∃ s, get? (payload e data) "payload-hex" = some (.str s) ∧ hexDecode s.toList = some data) ∧
    get? (payload e data) "payload-length" = some (.int data.length) := by
  refine ⟨⟨String.ofList (hexEncode data), ?_, ?_⟩, get_store_same _ _ _⟩
  · rw [payload, get_store_other _ _ _ _ (by simp), get_store_same]
  · rw [String.toList_ofList, C05_hex_roundtrip]

/-- Addresses and ports recorded from a TCP or UDP connection equal the connection's; other
address kinds record nothing. -/
theorem C05_addr_exact (e : Event) (ip : String) (port : Nat) :
    get? (sourceAddr e (.tcp ip port)) "source-ip" = some (.str ip) ∧
    get? (sourceAddr e (.tcp ip port)) "source-port" = some (.int port) ∧
    get? (sourceAddr e (.udp ip port)) "source-ip" = some (.str ip) ∧
    get? (sourceAddr e (.udp ip port)) "source-port" = some (.int port) ∧
    sourceAddr e .other = e ∧
    get? (destinationAddr e (.tcp ip port)) "destination-ip" = some (.str ip) ∧
    get? (destinationAddr e (.tcp ip port)) "destination-port" = some (.int port) ∧
    get? (destinationAddr e (.udp ip port)) "destination-ip" = some (.str ip) ∧
    get? (destinationAddr e (.udp ip port)) "destination-port" = some (.int port) ∧
    destinationAddr e .other = e := by
  simp [sourceAddr, destinationAddr, addrOpt, get_store_same, get_store_other]

/-- Merging keeps every key the event already has (with its value, whatever its type) … -/
theorem C05_merge_keeps (data : List (String × Val)) : ∀ (e : Event) (k : String) (v : Val),
    get? e k = some v → get? (mergeFrom e data) k = some v := by
  refine fun e k v h => List.foldlRecOn (motive := fun e => get? e k = some v) data _ h fun e h d _ => ?_
  split
  · exact h
  · next hh =>
    -- `d.1` is stored only if the event lacks it, so it is not `k`
    rw [get_store_other _ _ _ _ fun hk => hh ((has_iff e d.1).2 (by rw [← hk, h]; rfl))]
    exact h

/-- … whereas copying overwrites: after `CopyFrom` every key of the data has the data's value
(the last one, should a key be listed twice). -/
theorem C05_copy_overwrites (data : List (String × Val)) (e : Event) (k : String) (v : Val)
    (hk : (data.reverse.find? (·.1 = k)).map (·.2) = some v) : get? (copyFrom e data) k = some v := by
  rw [copyFrom, ← List.foldr_reverse]
  generalize data.reverse = r at hk
  induction r with
  | nil => cases hk
  | cons d ds ih =>
    rw [List.foldr_cons]
    by_cases hd : d.1 = k
    · rw [List.find?_cons_of_pos (by simpa using hd)] at hk
      cases hk; subst hd
      exact get_store_same _ _ _
    · rw [List.find?_cons_of_neg (by simpa using hd)] at hk
      rw [get_store_other _ _ _ _ (Ne.symm hd)]
      exact ih hk

/-- The JSON object's keys are exactly the stored keys: storing makes the key present and no
key is present twice. -/
theorem C05_keys (e : Event) (k : String) (v : Val) (h : (keys e).Nodup) :
    k ∈ keys (store e k v) ∧ (keys (store e k v)).Nodup ∧
    ∀ k', k' ∈ keys (store e k v) ↔ (k' = k ∨ k' ∈ keys e) := by
  rw [keys_store]
  refine ⟨List.mem_cons_self, List.nodup_cons.2 ⟨fun hk => ?_, h.filter _⟩, fun k' => ?_⟩
  · simpa using (List.mem_filter.1 hk).2
  · rw [List.mem_cons, List.mem_filter]
    by_cases hk : k' = k <;> simp [hk]

example : hexEncode [0, 255, 16, 10] = "00ff100a".toList ∧ hexDecode "00ff100a".toList = some [0, 255, 16, 10] := by
  decide

end HT.Ev

/- OBLIGATIONS
HT.Ev.C05_hex_roundtrip
HT.Ev.C05_payload_exact
HT.Ev.C05_addr_exact
HT.Ev.C05_merge_keeps
HT.Ev.C05_copy_overwrites
HT.Ev.C05_keys
-/

import HT.Model.Identity
/-!
# C18 — sensor identity survives restarts and interrupted first starts

Across any number of restarts on the same data directory, the sensor token attached to events,
the SSH host key, the TLS certificates presented by the ftp, smtp and ldap services and the agent
server key stay the same as first generated.  A start after the process was killed at any moment
of an earlier start-up comes up with a well-formed, non-empty identity and keeps it from then on.

The key-value store's `Set` is atomic and durable (badger's and the kernel's crash consistency
are assumed); generated ids are well-formed (xid, assumed).
-/
namespace HT.Id

/-- Whatever the token file holds — absent, empty, any prefix of a token, any garbage a kill or
anything else left there — a start comes up with a well-formed token. -/
theorem C18_start_wellformed (d : Disk) (g : List Char) (hg : wfToken g = true) :
    wfToken (start d g).2 = true := by
  fun_cases start d g with
  | case1 c hc => exact hc
  | case2 => exact hg
  | case3 => exact hg

/-- … and keeps it: every later start uses the same token, whatever id it generates itself. -/
theorem C18_restart_stable (d : Disk) (g g' : List Char) (hg : wfToken g = true) :
    (start (start d g).1 g').2 = (start d g).2 ∧ (start (start d g).1 g').1 = (start d g).1 := by
  unfold start
  cases d with
  | none => simp [hg]
  | some c => by_cases h : wfToken c = true <;> simp [h, hg]

/-- Restart histories of any length: all starts report the token of the first one. -/
theorem C18_history_stable (gs : List (List Char)) : ∀ (d : Disk) (g : List Char),
    wfToken g = true → (∀ x ∈ gs, wfToken x = true) →
    ∀ t ∈ (starts (start d g).1 gs).2, t = (start d g).2 := by
  -- the ids the later starts generate are never used, well-formed or not
  intro d g hg hall; clear hall
  induction gs with
  | nil => exact fun _ ht => nomatch ht
  | cons x xs ih =>
    have hs := C18_restart_stable d g x hg
    intro t ht
    simp only [starts, hs.2, List.mem_cons] at ht
    exact ht.elim (fun h => h ▸ hs.1) (ih t)

/-- A kill at any moment of a start leaves the file as it was or complete (temporary file +
rename); but `C18_start_wellformed` and `C18_restart_stable` do not even need that: they hold for
*every* content. This corollary spells out the crash clause for a first start. -/
theorem C18_crash_then_start (g1 g2 g3 : List Char) (h2 : wfToken g2 = true) (d' : Disk)
    (_hd : d' = none ∨ d' = some g1 ∨ ∃ k, d' = some (g1.take k)) :
    wfToken (start d' g2).2 = true ∧ (start (start d' g2).1 g3).2 = (start d' g2).2 :=
  ⟨C18_start_wellformed d' g2 h2, (C18_restart_stable d' g2 g3 h2).1⟩

/-- Record of the defect repaired by a `fix:` commit: the start as it was adopted an empty (or
cut-short) token file as the identity. -/
theorem C18_counterexample_empty_token (g : List Char) :
    (startOld (some []) g).2 = [] ∧ wfToken (startOld (some []) g).2 = false :=
  ⟨rfl, rfl⟩

/-- A stored secret (ssh host key, agent key pair) never changes once stored. -/
theorem C18_secret_stable (stored : Option Nat) (g g' : Nat) :
    (loadOrGen (loadOrGen stored g).1 g').2 = (loadOrGen stored g).2 := by
  cases stored <;> rfl

/-- Key and certificate: after a kill at any point of the first start (nothing stored, key only,
both), the next start completes the pair — with the stored key, and a certificate for that
key — and from then on every start presents the same key and certificate. -/
theorem C18_cert_crash_safe (s0 : KC) (hs0 : s0 = { key := none, cert := none }) (gk gs gk' gs' gk'' gs'' : Nat)
    (s : KC) (hs : s ∈ certCrashStates s0 gk gs) :
    let r := certStart s gk' gs'
    r.2.2.1 = r.2.1 ∧                                   -- the certificate is for the key in use
    (s.key.isSome → r.2.1 = gk) ∧                       -- a stored key is kept
    (certStart r.1 gk'' gs'').2 = r.2 := by             -- stable from then on
  subst hs0
  simp [certCrashStates, certStart] at hs
  rcases hs with rfl | rfl | rfl <;> simp [certStart]

/-- non-vacuity: a well-formed token exists and the decisions distinguish the cases -/
example : wfToken "9m4e2mr0ui3e8a215n4g".toList = true ∧ wfToken "9m4e2mr0ui3e8a215n4".toList = false ∧
    wfToken [] = false ∧ wfToken "9m4e2mr0ui3e8a215n4w".toList = false := by
  decide

end HT.Id

/- OBLIGATIONS
HT.Id.C18_start_wellformed
HT.Id.C18_restart_stable
HT.Id.C18_history_stable
HT.Id.C18_crash_then_start
HT.Id.C18_counterexample_empty_token
HT.Id.C18_secret_stable
HT.Id.C18_cert_crash_safe
-/

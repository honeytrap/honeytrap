import HT.Lemmas.RotFile
/-!
# C07 — the file channel keeps every event as one intact JSON line across rotations

Every event accepted by the file channel appears exactly once as one complete line in
the log file or one of its rotated predecessors, whatever the event sizes, the
configured maximum size and the moments at which rotation happens.  Rotation never
cuts or corrupts a line and never overwrites an earlier rotated file, a file exceeds
the maximum size only if it consists of a single line that is itself larger.

A batch handed to `Write` by the channel's writer is a concatenation of whole lines
(`json.Encoder.Encode` per event); `Aligned` states that.  "Sending never blocks
forever" is a property of the writer goroutine and is covered by the correspondence
run (unwritable destination), not by a theorem.
-/
namespace HT.Rot

def writes (max : Nat) (f : RF) (ps : List Bytes) : RF := ps.foldl (write max) f

/-- Exactly once, in order, unaltered: after any history of writes the rotated files followed
by the active file hold exactly the bytes written, in the order written — for every
maximum size, every batch size and every starting state. -/
theorem C07_stream_preserved (max : Nat) (ps : List Bytes) : ∀ (f : RF),
    contents (writes max f ps) = contents f ++ ps.flatten := by
  induction ps with
  | nil => intro f; simp [writes]
  | cons p ps ih =>
    intro f
    simp only [writes, List.foldl_cons] at ih ⊢
    rw [ih, write_contents]; simp [List.append_assoc]

/-- Rotation never cuts a line: if whole lines are written, every file consists of whole lines. -/
theorem C07_lines_intact (max : Nat) (ps : List Bytes) : ∀ (f : RF),
    AllAligned f → (∀ p ∈ ps, Aligned p) → AllAligned (writes max f ps) :=
  fun _ hf hp => List.foldlRecOn (motive := AllAligned) ps (write max) hf
    fun g hg p hm => write_aligned max g p hg (hp p hm)

/-- A file exceeds the maximum size only if it consists of a single line. -/
theorem C07_size_rule (max : Nat) (ps : List Bytes) : ∀ (f : RF),
    AllSizeOK max f → (∀ p ∈ ps, Aligned p) → AllSizeOK max (writes max f ps) :=
  fun _ hf hp => List.foldlRecOn (motive := AllSizeOK max) ps (write max) hf
    fun g hg p hm => write_sizeOK max g p hg (hp p hm)

/-- `Write` terminates: the fuel the model gives the loop (`2·len + 2`) exceeds its measure `mu`,
and `mu` falls at every turn that goes on (inside the proof of `writeLoop_induct`), so the
fuel-exhausted arm never answers. -/
theorem C07_write_fuel_suffices (f : RF) (p : Bytes) : mu f p < 2 * p.length + 2 := write_mu f p

/-- An earlier rotated file is never overwritten: rotation only appends to the list of rotated
files … -/
theorem C07_rotation_appends (f : RF) : (rotate f).rotated = f.rotated ++ [f.cur] := rfl

/-- … and the name chosen for the new one is not taken. -/
theorem C07_rotated_name_fresh (taken : List String) (base : String) (n : Nat) (name : String)
    (h : rotName taken base n = some name) : name ∉ taken := by
  simpa using List.find?_some h

/-! Record of the defect repaired by a `fix:` commit: the loop as it was wrote nothing,
rotated and skipped one byte when the first line of the batch did not fit. -/

def oldScan (p : Bytes) : Nat → Nat
  | 0 => 0
  | j + 1 => if p.getD (j + 1) 0 = NL then j + 1 else oldScan p j

def oldWriteLoop (max : Nat) : Nat → RF → Bytes → RF
  | 0, f, p => { f with cur := f.cur ++ p }
  | fuel + 1, f, p =>
    if f.cur.length + p.length > max then
      let j := oldScan p (max - f.cur.length)
      oldWriteLoop max fuel (rotate { f with cur := f.cur ++ p.take j }) (p.drop (j + 1))
    else { f with cur := f.cur ++ p }

theorem C07_counterexample_first_line_straddles_boundary :
    (oldWriteLoop 1024 5 { rotated := [], cur := mkLine 1000 } (mkLine 100)).cur.length = 99 := by
  -- no newline among the 24 bytes that fit, so `j = 0`: nothing is written and `p[0]` is skipped
  have hs : oldScan (mkLine 100) 24 = 0 := by decide
  simp [oldWriteLoop, rotate, length_mkLine, hs]

/-- non-vacuity: the same write with the repaired loop keeps all 100 bytes, in a new file
(first turn `rotateFirst`, second `fits`) -/
example : (write 1024 { rotated := [], cur := mkLine 1000 } (mkLine 100)) =
    { rotated := [mkLine 1000], cur := mkLine 100 } := by
  have hn : lastNL (mkLine 100) 24 = none := by decide
  have h1 : choose 1024 ⟨[], mkLine 1000⟩ (mkLine 100) = .rotateFirst := by simp [choose, length_mkLine, hn]
  have h2 : choose 1024 (rotate ⟨[], mkLine 1000⟩) (mkLine 100) = .fits := by simp [choose, rotate, length_mkLine]
  rw [write, writeLoop, h1]
  simp only
  rw [writeLoop, h2]
  rfl

example : AllAligned { rotated := [], cur := mkLine 1000 } ∧ Aligned (mkLine 100) ∧
    AllSizeOK 1024 { rotated := [], cur := mkLine 1000 } :=
  ⟨⟨Or.inr (endsNL_mkLine (by decide)), nofun⟩, Or.inr (endsNL_mkLine (by decide)),
    Or.inl (by rw [length_mkLine (by decide)]; decide), nofun⟩

end HT.Rot

/- OBLIGATIONS
HT.Rot.C07_stream_preserved
HT.Rot.C07_lines_intact
HT.Rot.C07_size_rule
HT.Rot.C07_write_fuel_suffices
HT.Rot.C07_rotation_appends
HT.Rot.C07_rotated_name_fresh
HT.Rot.C07_counterexample_first_line_straddles_boundary
-/

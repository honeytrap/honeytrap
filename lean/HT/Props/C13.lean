import HT.Lemmas.JA3
/-!
# C13 — the recorded JA3 fingerprint is the specification's JA3 of the ClientHello sent

For every TLS ClientHello a client sends to the https service, the JA3 digest recorded
with the connection's events is the MD5 of the JA3 string the JA3 specification defines
for exactly that hello: decimal legacy version, cipher suites, extension types, elliptic
curves and point formats in wire order, with GREASE values left out of ciphers,
extensions and curves.  Hellos that differ only in their GREASE values get the same
digest, and the recorded server name equals the SNI sent.

The digest is `md5 ∘ utf8` of the string (a parameter here; the correspondence oracle
checks it with `crypto/md5`).  Well-formedness = field values in their wire ranges,
extension types other than the three the fingerprint reads are not 0/10/11, and at most
one supported-groups and one point-formats extension (where the specification is silent).
-/
namespace HT.JA3

def Hello.wf (h : Hello) : Prop :=
  (∀ e ∈ h.exts, e.wf) ∧ (groupsOf h.exts).length ≤ 1 ∧ (pointsOf h.exts).length ≤ 1

/-- The JA3 string the stack computes from the wire form of the hello is the specification's. -/
theorem C13_ja3_eq_spec (h : Hello) (hw : h.wf) :
    (parseExts (wire h) Info.empty).map (ja3 h.version h.ciphers) = some (ja3Spec h) := by
  unfold wire
  rw [parseExts_wire h.exts Info.empty hw.1]
  simp only [Option.map_some, Info.empty, List.nil_append]
  unfold ja3 ja3Spec
  simp only [lastOr_le_one _ hw.2.1, lastOr_le_one _ hw.2.2, flatMap_groups, flatMap_points]

/-- … hence for any digest function the recorded digest is the digest of the specification's string. -/
theorem C13_digest_eq_spec (md5 : String → String) (h : Hello) (hw : h.wf) :
    (parseExts (wire h) Info.empty).map (fun i => md5 (ja3 h.version h.ciphers i)) = some (md5 (ja3Spec h)) :=
  (Option.map_map md5 _ _).symm.trans (congrArg (Option.map md5) (C13_ja3_eq_spec h hw))

/-- removing every GREASE value: from the cipher suites, the extension list and the groups -/
def Ext.keep : Ext → Bool
  | .other t _ => !isGrease t
  | _ => true

def Ext.strip : Ext → Ext
  | .groups gs => .groups (gs.filter (fun v => !isGrease v))
  | e => e

def stripGrease (h : Hello) : Hello :=
  { version := h.version
    ciphers := h.ciphers.filter (fun v => !isGrease v)
    exts := (h.exts.filter Ext.keep).map Ext.strip }

theorem filter_filter_same {α : Type} (p : α → Bool) (l : List α) : (l.filter p).filter p = l.filter p := by
  rw [List.filter_filter]; congr 1; funext v; exact Bool.and_self _

theorem flatMap_strip (G : Ext → List Nat) (hdrop : ∀ t b, isGrease t = true → G (.other t b) = [])
    (hstrip : ∀ e, G e.strip = G e) (es : List Ext) :
    ((es.filter Ext.keep).map Ext.strip).flatMap G = es.flatMap G := by
  induction es with
  | nil => rfl
  | cons e es ih =>
    rw [List.filter_cons]
    split
    · rw [List.map_cons, List.flatMap_cons, List.flatMap_cons, hstrip, ih]
    · rename_i h
      rw [ih, List.flatMap_cons]
      cases e with
      | other t b => rw [hdrop t b (by simpa [Ext.keep] using h)]; rfl
      | _ => exact absurd rfl h

theorem strip_types (es : List Ext) :
    (((es.filter Ext.keep).map Ext.strip).map Ext.typ).filter (fun v => !isGrease v) =
      (es.map Ext.typ).filter (fun v => !isGrease v) := by
  rw [List.map_eq_flatMap (f := Ext.typ), List.map_eq_flatMap (f := Ext.typ), List.filter_flatMap, List.filter_flatMap]
  exact flatMap_strip _ (fun t b hg => by simp [Ext.typ, hg]) (fun e => by cases e <;> rfl) es

theorem strip_groups (es : List Ext) :
    (((es.filter Ext.keep).map Ext.strip).flatMap Ext.groupsIn).filter (fun v => !isGrease v) =
      (es.flatMap Ext.groupsIn).filter (fun v => !isGrease v) := by
  rw [List.filter_flatMap, List.filter_flatMap]
  exact flatMap_strip _ (fun _ _ _ => rfl)
    (fun e => by cases e with | groups gs => exact filter_filter_same _ gs | _ => rfl) es

theorem strip_points (es : List Ext) :
    ((es.filter Ext.keep).map Ext.strip).flatMap Ext.pointsIn = es.flatMap Ext.pointsIn :=
  flatMap_strip _ (fun _ _ _ => rfl) (fun e => by cases e <;> rfl) es

/-- Hellos that differ only in their GREASE values have the same JA3 string (and digest):
the specification's string of a hello is that of the hello with every GREASE value removed. -/
theorem C13_grease_invariant (h : Hello) : ja3Spec (stripGrease h) = ja3Spec h := by
  unfold ja3Spec stripGrease
  simp only [filter_filter_same, strip_types, strip_groups, strip_points]

theorem C13_grease_invariant' (h1 h2 : Hello) (h : stripGrease h1 = stripGrease h2) :
    ja3Spec h1 = ja3Spec h2 := by
  rw [← C13_grease_invariant h1, ← C13_grease_invariant h2, h]

/-- The recorded server name equals the SNI sent (the last server-name extension's host name;
empty when there is none). -/
theorem C13_sni_exact (h : Hello) (hw : ∀ e ∈ h.exts, e.wf) :
    (parseExts (wire h) Info.empty).map (·.serverName) = some (lastOr (snisOf h.exts) []) := by
  unfold wire
  rw [parseExts_wire h.exts Info.empty hw]
  rfl

/-- Record of the defect repaired by a `fix:` commit: `JA3()` as it was kept GREASE values in
the cipher-suite and curve lists, so two hellos differing only in GREASE differed in JA3. -/
theorem C13_counterexample_grease_in_ciphers :
    ja3Old 771 [2570, 49195] { Info.empty with curves := [10794, 29] } ≠
    ja3Old 771 [6682, 49195] { Info.empty with curves := [14906, 29] } := by decide

/-- non-vacuity: a hello with GREASE in all three places meets `wf` -/
example : (⟨771, [2570, 49195, 49199], [.other 2570 [], .sni [97, 46, 98], .other 23 [], .groups [6682, 29, 23],
    .points [0], .other 2570 [0]]⟩ : Hello).wf := by
  refine ⟨?_, by decide, by decide⟩
  intro e he
  simp only [List.mem_cons, List.mem_nil_iff, or_false] at he
  rcases he with rfl | rfl | rfl | rfl | rfl | rfl <;> (unfold Ext.wf; decide)

end HT.JA3

/- OBLIGATIONS
HT.JA3.C13_ja3_eq_spec
HT.JA3.C13_digest_eq_spec
HT.JA3.C13_grease_invariant
HT.JA3.C13_grease_invariant'
HT.JA3.C13_sni_exact
HT.JA3.C13_counterexample_grease_in_ciphers
-/

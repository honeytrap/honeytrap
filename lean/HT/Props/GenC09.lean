import HT.Gen.Facts
/-!
Constants regenerated from the source that a check relies on without any Lean model using them.
`HT.Gen.*` is rewritten by `/verif/extract` from /repo's working tree on every run (go/parser + go/ast);
each theorem here is re-checked by the kernel against what the code says now.  If a constant
changes in the source, the theorem stops checking and the check reports it.
-/
namespace HT.GenAgree

/-- the two timeouts the silence bound of the check is built from: the idle timeout the server wraps
every connection with, and the ftp passive accept / data timeout -/
theorem C09_gen_timeouts : HT.Gen.idleTimeout = 30 ∧ HT.Gen.ftpPassiveTimeout = 30 := by decide

end HT.GenAgree

/- OBLIGATIONS
HT.GenAgree.C09_gen_timeouts
-/

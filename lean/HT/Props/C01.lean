import HT.Lemmas.Confine
/-!
# C01 — no client traffic to an emulated service can terminate the honeypot process

Statement (properties.jsonl): for every service and every byte sequence, in any segmentation and on
any number of concurrent connections, the process keeps running and keeps serving; a failure while
handling one connection is confined to that connection; it never ends in an unrecovered panic, a
fatal runtime error, or memory growth that continues without further client input.

The proof part is the confinement argument and the two loops whose non-termination was unbounded
allocation: (1) whatever the order in which goroutines end, a process in which every ending is a
return, a panic under a recover, survives and has closed and reported every connection — so the
property reduces to "no fatal error and no panic outside a recover", which is what the lab runs look
for service by service; (2) the ssh payload loop ends for every payload (and did not).  The bounds on
redis nesting and on the ipp group loop are the theorems of `HT.Props.C01Bounds`.
-/
namespace HT.Conf

/-- **Confinement.** Any number of connections and service goroutines ending in any order: if each
ending is confined, the process is alive, every handler that ended is accounted for, and every
recovered panic has been reported. -/
theorem C01_confined (es : List (Site × Outcome)) (h : ∀ e ∈ es, confined e = true) :
    ∀ p : Proc, p.alive = true →
      (run p es).alive = true ∧
      (run p es).ended = p.ended + (es.filter (fun e => e.1 == .handler)).length ∧
      (run p es).errors = p.errors + (es.filter (fun e => e.1 == .handler && e.2 == .panicked)).length := by
  intro ⟨_, n, m⟩ hp
  cases hp
  rw [run_confined es h, List.countP_eq_length_filter, List.countP_eq_length_filter]
  exact ⟨rfl, rfl, rfl⟩

/-- the converse: one unconfined ending, wherever it falls, and the process is gone for good
(whatever came before it: `hpre` is not used) -/
theorem C01_unconfined_kills (pre post : List (Site × Outcome)) (e : Site × Outcome)
    (hpre : ∀ x ∈ pre, confined x = true) (he : confined e = false) :
    (run Proc.init (pre ++ e :: post)).alive = false :=
  run_unconfined _ pre post he

/-- vnc as it was: the frame pusher panics outside every recover -/
theorem C01_counterexample_unrecovered_pusher :
    (run Proc.init [(.handler, .returned), (.spawned false, .panicked), (.handler, .returned)]).alive = false := by decide

/-- For every payload the loop ends, within one iteration per byte plus two (`sshStrings_ends` has the
sharper bound, one per four bytes plus two). -/
theorem C01_ssh_payload_loop_ends : ∀ (fuel : Nat) (b : Bytes) (err : Bool), b.length + 2 ≤ fuel →
    ∃ r, sshStrings true fuel err b = some r :=
  fun fuel b err h => Option.isSome_iff_exists.1
    (sshStrings_ends fuel b err (Nat.le_trans (Nat.add_le_add_right (Nat.div_le_self ..) 2) h))

/-- As it was: a payload of two bytes keeps the loop running (and appending) for any fuel. -/
theorem C01_counterexample_ssh_payload_spins (x y : UInt8) : ∀ fuel err, sshStrings false fuel err [x, y] = none := by
  intro fuel
  induction fuel with
  | zero => intro err; rfl
  | succ f ih => intro err; simp [sshStrings, ih]

example : sshStrings true 10 false [0, 0, 0, 2, 105, 100, 0, 0, 0, 1, 120] = some [[105, 100], [120]] := by decide
example : sshStrings true 10 false [0, 0, 0, 2, 105, 100, 7] = some [[105, 100], []] := by decide

end HT.Conf

/- OBLIGATIONS
HT.Conf.C01_confined
HT.Conf.C01_unconfined_kills
HT.Conf.C01_counterexample_unrecovered_pusher
HT.Conf.C01_ssh_payload_loop_ends
HT.Conf.C01_counterexample_ssh_payload_spins
-/

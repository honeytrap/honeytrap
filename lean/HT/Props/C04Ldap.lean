import HT.Lemmas.Ldap
/-!
# C04 — ldap: one report per LDAPMessage, whatever the segmentation
-/
namespace HT.Ldap
open HT.Seg HT.Proto

/-- ldap: the reports (message id, request type) of a connection are the same for every segmentation of the
client's byte stream. -/
theorem C04_ldap_segmentation (segs segs' : List Bytes) (h : segs.flatten = segs'.flatten) :
    eventsOf ldap true segs = eventsOf ldap true segs' :=
  any_two_segmentations ldap ldap_framed true segs segs' h

/-- a bind request (message id 1), a delete (id 2) and an unbind (id 3) in one write: three reports, in order -/
example : (eventsOf ldap true [[0x30, 0x0c, 0x02, 0x01, 0x01, 0x60, 0x07, 0x02, 0x01, 0x03, 0x04, 0x00, 0x80, 0x00,
    0x30, 0x06, 0x02, 0x01, 0x02, 0x4a, 0x01, 0x78, 0x30, 0x05, 0x02, 0x01, 0x03, 0x42, 0x00]]).length = 3 := by
  decide

end HT.Ldap

/- OBLIGATIONS
HT.Ldap.C04_ldap_segmentation
-/

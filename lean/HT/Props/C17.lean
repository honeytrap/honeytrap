import HT.Model.Decoder
import HT.Lemmas.Decoder
/-!
# C17 — the binary decoder stays in bounds (decoder part)

Property theorems only; helper lemmas are in `HT.Lemmas.Decoder`.

Statement (properties.jsonl): the bounds-checked binary decoder never reads
outside its buffer and never fails abruptly for any sequence of operations with
any size arguments: a primitive read that does not fit returns zero, records an
error and consumes nothing, and one that fits returns exactly the big-endian
value at the cursor and advances by its size.
-/
namespace HT.Dec

/-- A primitive read that fits returns exactly the big-endian value at the cursor
and advances by its size (`n = 1, 2, 4` for Byte, Int16, Int32/Uint32). -/
theorem C17_read_fits (d : Dec) (n : Nat) (h : d.Inv) (hf : d.off + n ≤ d.len) :
    readN d n = .ok (beNat ((d.data.drop d.off.toNat).take n), { d with off := d.off + n }) := by
  have h0 := Int.natCast_nonneg n
  rw [readN, if_pos (hasBytes_fits h h0 hf), slice_fits h h0 hf]; rfl

/-- A primitive read that does not fit returns zero, records an error and
consumes nothing. -/
theorem C17_read_short (d : Dec) (n : Nat) (h : d.Inv) (hf : ¬ d.off + n ≤ d.len) :
    readN d n = .ok (0, { d with err := true }) :=
  if_neg (hasBytes_short hf)

/-- The same for the two peeks, which never move the cursor. -/
theorem C17_peek_fits (d : Dec) (n : Nat) (h : d.Inv) (hf : d.off + n ≤ d.len) :
    peekN d n = .ok (beNat ((d.data.drop d.off.toNat).take n), d) := by
  have h0 := Int.natCast_nonneg n
  rw [peekN, if_pos (hasBytes_fits h h0 hf), slice_fits h h0 hf]; rfl

theorem C17_peek_short (d : Dec) (n : Nat) (h : d.Inv) (hf : ¬ d.off + n ≤ d.len) :
    peekN d n = .ok (0, { d with err := true }) :=
  if_neg (hasBytes_short hf)

/-- `Copy(n)` that fits returns exactly the `n` bytes at the cursor and advances;
one that does not fit — including every negative `n` — returns nil, records an
error and consumes nothing. -/
theorem C17_copy_fits (d : Dec) (n : Int) (h : d.Inv) (h0 : 0 ≤ n) (hf : d.off + n ≤ d.len) :
    copy d n = .ok (some ((d.data.drop d.off.toNat).take n.toNat), { d with off := d.off + n }) := by
  rw [copy, if_neg (Int.not_lt.2 h0), if_pos (hasBytes_fits h h0 hf), mkSlice, if_pos h0, slice_fits h h0 hf]
  simp only [bind, Except.bind, List.take_take, Nat.min_self]; rfl

theorem C17_copy_short (d : Dec) (n : Int) (h : d.Inv) (hf : n < 0 ∨ ¬ d.off + n ≤ d.len) :
    copy d n = .ok (none, { d with err := true }) := by
  by_cases hn : n < 0
  · exact if_pos hn
  · exact (if_neg hn).trans (if_neg (hasBytes_short (hf.resolve_left hn)))

/-- Every operation, with every argument, from every in-bounds state: no panic,
and the cursor stays in bounds. -/
theorem C17_step_no_panic (d : Dec) (op : Op) (h : d.Inv) :
    ∃ r, step d op = .ok r ∧ r.2.Inv ∧ r.2.data = d.data :=
  step_safe op d h

/-- Every operation *sequence* (any length) from a fresh decoder over any buffer:
no panic, cursor in bounds at the end. -/
theorem C17_run_no_panic (b : Bytes) (ops : List Op) :
    ∃ r, run (new b) ops = .ok r ∧ r.2.Inv ∧ r.2.data = b :=
  run_safe ops (new b) (new_inv b)

/-- Go's `int` is 64-bit and `offset + size` may wrap; the guard decides the same
way as with unbounded integers for every in-bounds cursor and every 64-bit
argument, so modelling `int` as `Int` loses nothing here. -/
theorem C17_int_overflow_irrelevant (off len size : Int)
    (h0 : 0 ≤ off) (h1 : off ≤ len) (h2 : len < 9223372036854775808)
    (hs : -9223372036854775808 ≤ size ∧ size < 9223372036854775808) :
    (0 ≤ wrap64 (off + size) ∧ wrap64 (off + size) ≤ len) ↔ (0 ≤ off + size ∧ off + size ≤ len) := by
  unfold wrap64; omega

/-- Record of the defect repaired by the `fix:` commit (known-findings.txt): the
code as it was (`copyRaw`, no sign check) panics on a negative size that keeps
`offset + size` inside the buffer. -/
theorem C17_counterexample_copy_negative_size :
    isPanic (copyRaw { off := 3, data := [1, 2, 3, 4], err := false } (-2)) = true := by decide

/-- … and `Data()` reached it with any length prefix ≥ 0x8000 once the cursor
is far enough into the buffer. -/
theorem C17_counterexample_data_length_ge_0x8000 :
    isPanic (dataRaw { off := 1, data := [0, 0xff, 0xff, 9], err := false }) = true := by decide

/-- non-vacuity: the hypotheses of the read theorems are met by a real state -/
example : (new [1, 2, 3]).Inv ∧ (new [1, 2, 3]).off + (2 : Nat) ≤ (new [1, 2, 3]).len := by
  decide

example : (run (new [0, 2, 0xab, 0xcd, 7]) [.data, .byte, .byte]).toOption.map (·.1)
    = some [.str (some [0xab, 0xcd]), .num 7, .num 0] := by decide

end HT.Dec

/- OBLIGATIONS
HT.Dec.C17_step_no_panic
HT.Dec.C17_run_no_panic
HT.Dec.C17_read_fits
HT.Dec.C17_read_short
HT.Dec.C17_peek_fits
HT.Dec.C17_peek_short
HT.Dec.C17_copy_fits
HT.Dec.C17_copy_short
HT.Dec.C17_int_overflow_irrelevant
HT.Dec.C17_counterexample_copy_negative_size
HT.Dec.C17_counterexample_data_length_ge_0x8000
-/
